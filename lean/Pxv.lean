import Pxv.Model.Body
import Pxv.Thm.C14
import Pxv.Model.CallGraph
import Pxv.Model.Order
import Pxv.Lemmas.Order
import Pxv.Thm.C01
import Pxv.Thm.C02
import Pxv.Model.Server
import Pxv.Thm.C16
import Pxv.Model.Store
import Pxv.Thm.C13
import Pxv.Model.Session
import Pxv.Model.SessionSpec
import Pxv.Thm.C11
import Pxv.Thm.C12
import Pxv.Model.ReqData
import Pxv.Thm.C15
import Pxv.Model.Config
import Pxv.Thm.C18
import Pxv.Model.Ty
import Pxv.Model.TySpec
import Pxv.Model.TyParse
import Pxv.Thm.C17
import Pxv.Model.Domain
import Pxv.Thm.C20
import Pxv.Model.Bp
import Pxv.Model.Attr
import Pxv.Thm.C19
import Pxv.Thm.C05
import Pxv.Thm.C09
import Pxv.Thm.C10
import Pxv.Model.Scope
import Pxv.Thm.C04
import Pxv.Model.Lifecycle
import Pxv.Thm.C03
import Pxv.Model.Rules
import Pxv.Lemmas.Rules
import Pxv.Lemmas.RulesSpec
import Pxv.Thm.C08
import Pxv.Model.Errors
import Pxv.Thm.C06
import Pxv.Model.Matchit
import Pxv.Model.Router
import Pxv.Lemmas.Matchit
import Pxv.Lemmas.Router
import Pxv.Thm.C07
import Pxv.Lemmas.RouterBp
import Pxv.Lemmas.Manifest
