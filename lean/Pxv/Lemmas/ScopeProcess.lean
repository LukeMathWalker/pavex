import Pxv.Lemmas.Scope
/-! The scope graph `process`/`build` make of a blueprint is well-formed, and in it every route
    resolves every type to what the documented rule, read off the blueprint tree (`designated`),
    says: proofs behind `Thm/C04.lean`. The rule is proved for routes; middlewares follow by
    exchanging the roles of the two. -/
namespace Pxv.Scope
open Walk

/-- constructors registered directly against a blueprint, in order -/
def ownCtors : Bp → List Ctor
  | .nil => []
  | .cons (.ctor c) rest => c :: ownCtors rest
  | .cons _ rest => ownCtors rest

/-- routes registered directly against a blueprint, in order -/
def ownRoutes : Bp → List Nat
  | .nil => []
  | .cons (.route r) rest => r :: ownRoutes rest
  | .cons _ rest => ownRoutes rest

/-- middlewares registered directly against a blueprint, in order -/
def ownMwIds : Bp → List Nat
  | .nil => []
  | .cons (.mw m) rest => m :: ownMwIds rest
  | .cons _ rest => ownMwIds rest

/-- the blueprint's own latest registration for a type -/
def ownLast (b : Bp) (ty : Nat) : Option Ctor :=
  ((ownCtors b).filter (fun c => c.ty == ty)).getLast?

mutual
  /-- what the routes inside the blueprints nested in `b` get for `ty`, when `b` itself resolves it to `env` -/
  def nestedDesig (env : Option Ctor) (ty : Nat) : Bp → List (Nat × Option Ctor)
    | .nil => []
    | .cons i rest => nestedItem env ty i ++ nestedDesig env ty rest
  def nestedItem (env : Option Ctor) (ty : Nat) : Item → List (Nat × Option Ctor)
    | .nest b =>
      (ownRoutes b).map (fun r => (r, (ownLast b ty).or env)) ++ nestedDesig ((ownLast b ty).or env) ty b
    | _ => []
end

mutual
  def nestedDesigM (env : Option Ctor) (ty : Nat) : Bp → List (Nat × Option Ctor)
    | .nil => []
    | .cons i rest => nestedItemM env ty i ++ nestedDesigM env ty rest
  def nestedItemM (env : Option Ctor) (ty : Nat) : Item → List (Nat × Option Ctor)
    | .nest b =>
      (ownMwIds b).map (fun r => (r, (ownLast b ty).or env)) ++ nestedDesigM ((ownLast b ty).or env) ty b
    | _ => []
end

/-- the rule for middlewares: a middleware sees what the blueprint it is registered against sees -/
def designatedM (b : Bp) (ty : Nat) : List (Nat × Option Ctor) :=
  (ownMwIds b).map (fun r => (r, ownLast b ty)) ++ nestedDesigM (ownLast b ty) ty b

/-- **the documented rule**, read off the blueprint tree: a route gets, for a type, the latest registration of the
    nearest enclosing blueprint (its own included) that registers the type at all. -/
def designated (b : Bp) (ty : Nat) : List (Nat × Option Ctor) :=
  (ownRoutes b).map (fun r => (r, ownLast b ty)) ++ nestedDesig (ownLast b ty) ty b

/-- well-formedness of what `process_blueprint` has accumulated: edges go from an existing scope to a
    younger one, no scope has two parents, and registrations only name scopes that exist -/
structure St.Wf (st : St) : Prop where
  pos : 0 < st.next
  lt : ∀ e ∈ st.edges, e.1 < e.2 ∧ e.2 < st.next
  uniq : ∀ a b s, (a, s) ∈ st.edges → (b, s) ∈ st.edges → a = b
  regs : ∀ r ∈ st.regs, r.1 < st.next

theorem wf_init : St.Wf {} where
  pos := by decide
  lt := nofun
  uniq := nofun
  regs := nofun

theorem addScope_wf (st : St) (p : Nat) (h : st.Wf) (hp : p < st.next) :
    (st.addScope p).Wf where
  pos := Nat.succ_pos _
  regs := fun r hr => Nat.lt_succ_of_lt (h.regs r hr)
  lt := by
    intro e he
    rcases List.mem_append.1 he with he | he
    · exact ⟨(h.lt e he).1, Nat.lt_succ_of_lt (h.lt e he).2⟩
    · cases List.mem_singleton.1 he
      exact ⟨hp, Nat.lt_succ_self _⟩
  uniq := by
    intro a b s ha hb
    -- an old edge ends below `st.next`, the new one at `st.next`
    simp only [St.addScope, List.mem_append, List.mem_singleton, Prod.mk.injEq] at ha hb
    rcases ha with ha | ⟨rfl, rfl⟩
    · rcases hb with hb | ⟨rfl, hs⟩
      · exact h.uniq a b s ha hb
      · exact absurd (h.lt _ ha).2 (by simp [hs])
    · rcases hb with hb | ⟨rfl, _⟩
      · exact absurd (h.lt _ hb).2 (by simp)
      · rfl

theorem mem_parents_build {st : St} (hst : st.Wf) {p s : Nat} (hs : s < st.next) :
    p ∈ (build st).parents s ↔ (p, s) ∈ st.edges := by
  simp only [SGraph.parents, build, List.mem_filter, List.mem_range, List.contains_iff_mem,
    List.mem_append, List.mem_map, Prod.mk.injEq]
  constructor
  · -- an edge of `build st` is one of `st`, or leads to the application-state scope `st.next`
    rintro ⟨_, h | ⟨q, _, _, rfl⟩⟩
    · exact h
    · exact absurd hs (Nat.lt_irrefl _)
  · intro h
    exact ⟨Nat.lt_succ_of_lt (Nat.lt_trans (hst.lt _ h).1 (hst.lt _ h).2), Or.inl h⟩

theorem build_decr (st : St) (h : st.Wf) : Decr (build st).parents := by
  intro s p hp
  simp only [SGraph.parents, build, List.mem_filter, List.mem_range, List.contains_iff_mem,
    List.mem_append, List.mem_map] at hp
  rcases hp.2 with he | ⟨q, hq, heq⟩
  · exact (h.lt _ he).1
  · simp only [Prod.mk.injEq] at heq
    obtain ⟨rfl, rfl⟩ := heq
    simp only [appParents, List.mem_filter, List.mem_range] at hq
    exact hq.1

theorem build_parents_le_one (st : St) (h : st.Wf) (s : Nat) (hs : s < st.next) :
    ((build st).parents s).length ≤ 1 := by
  have hn : ((build st).parents s).Nodup := List.Pairwise.filter _ List.nodup_range
  match hp : (build st).parents s with
  | [] | [_] => simp
  | a :: b :: _ =>
    have ha : (a, s) ∈ st.edges := (mem_parents_build h hs).1 (by simp [hp])
    have hb : (b, s) ∈ st.edges := (mem_parents_build h hs).1 (by simp [hp])
    have hab : a = b := h.uniq a b s ha hb
    simp [hp, hab] at hn

theorem parents_of_edge {st : St} (hst : st.Wf) {p s : Nat} (h : (p, s) ∈ st.edges) :
    (build st).parents s = [p] := by
  have hs := (hst.lt _ h).2
  have hmem := (mem_parents_build hst hs).2 h
  have hlen := build_parents_le_one st hst s hs
  match hp : (build st).parents s with
  | [] => rw [hp] at hmem; cases hmem
  | [q] => rw [hp, List.mem_singleton] at hmem; rw [hmem]
  | _ :: _ :: _ => rw [hp] at hlen; simp at hlen

theorem treeAbove_build (st : St) (hst : st.Wf) (s : Nat) (hs : s < st.next) :
    TreeAbove (build st) s :=
  (treeAbove_iff _ _).2 fun k hk => build_parents_le_one st hst k
    (Nat.lt_of_le_of_lt (chainF_le _ (build_decr st hst) _ _ k hk) hs)

/-- what the scope `s` resolves `ty` to in the scope graph made of `st` -/
def getF (st : St) (s ty : Nat) : Option Ctor := get (build st) st.regs s ty

theorem getF_edge {st : St} (hst : st.Wf) {p s : Nat} (h : (p, s) ∈ st.edges) (ty : Nat) :
    getF st s ty = (lookup st.regs s ty).or (getF st p ty) := by
  cases hl : lookup st.regs s ty with
  | some c => exact own_registration_wins _ _ s ty c hl
  | none =>
    have hs := (hst.lt _ h).2
    exact parent_inherited _ _ s p ty (build_decr _ hst) (Nat.le_of_lt hs)
      (treeAbove_build st hst s hs) (parents_of_edge hst h) hl

theorem getF_root (st : St) (hst : st.Wf) (ty : Nat) : getF st 0 ty = lookup st.regs 0 ty := by
  have hanc : ancestors (build st) 0 = [0] := by
    unfold ancestors
    simp only [chainF]
    split <;> rfl
  rw [getF, get_nearest _ _ 0 ty (build_decr _ hst) (Nat.zero_le _)
    (treeAbove_build st hst 0 hst.pos), hanc]
  simp only [firstHit]
  cases lookup st.regs 0 ty <;> rfl

/-- what `walkOwn b sc` does to a well-formed state: the constructors of `b` are registered against `sc`, every
    route of `b` gets a fresh scope below `sc` -/
structure OwnWalk (b : Bp) (sc : Nat) (st st' : St) : Prop where
  wf : st'.Wf
  next : st.next ≤ st'.next
  regs : st'.regs = st.regs ++ (ownCtors b).map (fun c => (sc, c))
  edges : ∃ es, st'.edges = st.edges ++ es ∧ ∀ e ∈ es, st.next ≤ e.2
  routes : ∃ rs, st'.routes = st.routes ++ rs ∧
    ∀ rk ∈ rs, rk.1 ∈ ownRoutes b ∧ st.next ≤ rk.2 ∧ (sc, rk.2) ∈ st'.edges
  mws : ∃ ms, st'.mws = st.mws ++ ms

theorem walkOwn_spec : ∀ (b : Bp) (sc : Nat) (st : St), st.Wf → sc < st.next →
    OwnWalk b sc st (walkOwn b sc st)
  | .nil => fun sc st h _ =>
    { wf := h
      next := Nat.le_refl _
      regs := (List.append_nil _).symm
      edges := ⟨[], (List.append_nil _).symm, nofun⟩
      routes := ⟨[], (List.append_nil _).symm, nofun⟩
      mws := ⟨[], (List.append_nil _).symm⟩ }
  | .cons (.ctor c) rest => fun sc st h hsc => by
    -- the new registration names the scope `sc`, which exists
    have h1 : St.Wf { st with regs := st.regs ++ [(sc, c)] } :=
      { h with
        regs := fun r hr => by
          rcases List.mem_append.1 hr with hr | hr
          · exact h.regs r hr
          · cases List.mem_singleton.1 hr
            exact hsc }
    have ih := walkOwn_spec rest sc _ h1 hsc
    exact { ih with regs := ih.regs.trans (List.append_cons ..).symm }
  | .cons (.mw m) rest => fun sc st h hsc => by
    -- `St.Wf` does not look at `mws` (nor at `routes`, `nested` further down)
    have h1 : St.Wf { st.addScope sc with mws := st.mws ++ [(m, st.next)] } :=
      { addScope_wf st sc h hsc with }
    have ih := walkOwn_spec rest sc _ h1 (Nat.lt_succ_of_lt hsc)
    obtain ⟨es, he, hb⟩ := ih.edges
    obtain ⟨rs, hr, hq⟩ := ih.routes
    obtain ⟨ms, hm⟩ := ih.mws
    exact
      { wf := ih.wf
        next := Nat.le_of_succ_le ih.next
        regs := ih.regs
        edges := by
          refine ⟨(sc, st.next) :: es, he.trans (List.append_cons ..).symm, ?_⟩
          exact List.forall_mem_cons.2 ⟨Nat.le_refl _, fun e h => Nat.le_of_succ_le (hb e h)⟩
        routes := by
          refine ⟨rs, hr, fun rk h => ?_⟩
          obtain ⟨hown, hge, hedge⟩ := hq rk h
          exact ⟨hown, Nat.le_of_succ_le hge, hedge⟩
        mws := ⟨(m, st.next) :: ms, hm.trans (List.append_cons ..).symm⟩ }
  | .cons (.route r) rest => fun sc st h hsc => by
    have h1 : St.Wf { st.addScope sc with routes := st.routes ++ [(r, st.next)] } :=
      { addScope_wf st sc h hsc with }
    have ih := walkOwn_spec rest sc _ h1 (Nat.lt_succ_of_lt hsc)
    obtain ⟨es, he, hb⟩ := ih.edges
    obtain ⟨rs, hr, hq⟩ := ih.routes
    have hedge : (sc, st.next) ∈ (walkOwn (.cons (.route r) rest) sc st).edges := by
      rw [walkOwn, he]
      exact List.mem_append_left _ (List.mem_append_right _ (List.mem_singleton.2 rfl))
    exact
      { wf := ih.wf
        next := Nat.le_of_succ_le ih.next
        regs := ih.regs
        edges := by
          refine ⟨(sc, st.next) :: es, he.trans (List.append_cons ..).symm, ?_⟩
          exact List.forall_mem_cons.2 ⟨Nat.le_refl _, fun e h => Nat.le_of_succ_le (hb e h)⟩
        routes := by
          refine ⟨(r, st.next) :: rs, hr.trans (List.append_cons ..).symm, ?_⟩
          refine List.forall_mem_cons.2
            ⟨⟨List.mem_cons_self, Nat.le_refl _, hedge⟩, fun rk h => ?_⟩
          obtain ⟨hown, hge, hedge'⟩ := hq rk h
          exact ⟨List.mem_cons_of_mem _ hown, Nat.le_of_succ_le hge, hedge'⟩
        mws := ih.mws }
  | .cons (.nest _) rest | .cons .other rest => fun sc st h hsc =>
    -- neither the walk nor `ownCtors`, `ownRoutes` see these items
    { walkOwn_spec rest sc st h hsc with }

/-- `fin` is `st` plus things that only concern scopes created later -/
structure Ext (st fin : St) : Prop where
  next : st.next ≤ fin.next
  regs : ∃ re, fin.regs = st.regs ++ re ∧ ∀ r ∈ re, st.next ≤ r.1
  edges : ∃ ee, fin.edges = st.edges ++ ee ∧ ∀ e ∈ ee, st.next ≤ e.2
  routes : ∃ rr, fin.routes = st.routes ++ rr
  mws : ∃ mm, fin.mws = st.mws ++ mm

theorem Ext.refl (st : St) : Ext st st where
  next := Nat.le_refl _
  regs := ⟨[], (List.append_nil _).symm, nofun⟩
  edges := ⟨[], (List.append_nil _).symm, nofun⟩
  routes := ⟨[], (List.append_nil _).symm⟩
  mws := ⟨[], (List.append_nil _).symm⟩

theorem Ext.trans {a b c : St} (h1 : Ext a b) (h2 : Ext b c) : Ext a c where
  next := Nat.le_trans h1.next h2.next
  regs := by
    obtain ⟨r1, hr1, hb1⟩ := h1.regs
    obtain ⟨r2, hr2, hb2⟩ := h2.regs
    refine ⟨r1 ++ r2, by rw [hr2, hr1, List.append_assoc], fun r hr => ?_⟩
    rcases List.mem_append.1 hr with hr | hr
    · exact hb1 r hr
    · exact Nat.le_trans h1.next (hb2 r hr)
  edges := by
    obtain ⟨e1, he1, hb1⟩ := h1.edges
    obtain ⟨e2, he2, hb2⟩ := h2.edges
    refine ⟨e1 ++ e2, by rw [he2, he1, List.append_assoc], fun e he => ?_⟩
    rcases List.mem_append.1 he with he | he
    · exact hb1 e he
    · exact Nat.le_trans h1.next (hb2 e he)
  routes := by
    obtain ⟨q1, hq1⟩ := h1.routes
    obtain ⟨q2, hq2⟩ := h2.routes
    exact ⟨q1 ++ q2, by rw [hq2, hq1, List.append_assoc]⟩
  mws := by
    obtain ⟨m1, hm1⟩ := h1.mws
    obtain ⟨m2, hm2⟩ := h2.mws
    exact ⟨m1 ++ m2, by rw [hm2, hm1, List.append_assoc]⟩

theorem ext_addScope (st : St) (p : Nat) : Ext st (st.addScope p) where
  next := Nat.le_succ _
  regs := ⟨[], (List.append_nil _).symm, nofun⟩
  edges := ⟨[(p, st.next)], rfl, List.forall_mem_singleton.2 (Nat.le_refl _)⟩
  routes := ⟨[], (List.append_nil _).symm⟩
  mws := ⟨[], (List.append_nil _).symm⟩

theorem Ext.lookup {st fin : St} (hx : Ext st fin) {s : Nat} (hs : s < st.next) (ty : Nat) :
    lookup fin.regs s ty = lookup st.regs s ty := by
  obtain ⟨re, hre, hb⟩ := hx.regs
  rw [hre]
  exact lookup_append _ _ _ _ fun r hr hrs =>
    Nat.lt_irrefl _ (Nat.lt_of_lt_of_le (hrs ▸ hs) (hb r hr))

theorem Ext.edge {st fin : St} (hx : Ext st fin) {e : Nat × Nat} (h : e ∈ st.edges) :
    e ∈ fin.edges := by
  obtain ⟨ee, hee, _⟩ := hx.edges
  rw [hee]
  exact List.mem_append_left _ h

theorem own_resolve {b : Bp} {sc : Nat} {st st2 fin : St} (hw : OwnWalk b sc st st2)
    (hsc : sc < st.next) (hfresh : ∀ r ∈ st.regs, r.1 < sc) (hfin : fin.Wf) (hx : Ext st2 fin)
    (ty : Nat) :
    lookup fin.regs sc ty = ownLast b ty ∧
    ∀ rk ∈ st2.routes,
      rk ∈ st.routes ∨ (rk.1 ∈ ownRoutes b ∧ getF fin rk.2 ty = getF fin sc ty) := by
  refine ⟨?_, fun rk hrk => ?_⟩
  · rw [hx.lookup (Nat.lt_of_lt_of_le hsc hw.next), hw.regs]
    exact lookup_own st.regs sc (ownCtors b) ty fun r hr => Nat.ne_of_lt (hfresh r hr)
  · obtain ⟨rs, hrs, hq⟩ := hw.routes
    rw [hrs] at hrk
    rcases List.mem_append.1 hrk with hold | hnew
    · exact Or.inl hold
    · obtain ⟨hroute, hge, hedge⟩ := hq rk hnew
      have hk : sc < rk.2 := Nat.lt_of_lt_of_le hsc hge
      -- nothing is registered against the route's own scope: it asks its parent `sc`
      have hnone : lookup fin.regs rk.2 ty = none := by
        rw [hx.lookup (hw.wf.lt _ hedge).2, hw.regs]
        refine lookup_none _ _ _ fun r hr => ?_
        rcases List.mem_append.1 hr with hr | hr
        · exact Nat.ne_of_lt (Nat.lt_trans (hfresh r hr) hk)
        · obtain ⟨c, _, rfl⟩ := List.mem_map.1 hr
          exact Nat.ne_of_lt hk
      have hget : getF fin rk.2 ty = getF fin sc ty := by
        rw [getF_edge hfin (hx.edge hedge), hnone]
        rfl
      exact Or.inr ⟨hroute, hget⟩

/-- What processing (some of) the blueprints nested in the blueprint of scope `cur` does, `D env ty` being what the
    rule designates for their routes when `cur` resolves `ty` to `env`: the state stays well-formed, only later
    scopes are concerned, and in every later state every new route resolves every type as designated. -/
structure Nested (D : Option Ctor → Nat → List (Nat × Option Ctor)) (cur : Nat) (st st' : St) : Prop where
  wf : st'.Wf
  ext : Ext st st'
  resolves : ∀ ty fin env, fin.Wf → Ext st' fin → getF fin cur ty = env →
    ∀ rk ∈ st'.routes, rk ∈ st.routes ∨ (rk.1, getF fin rk.2 ty) ∈ D env ty

theorem Nested.refl {D : Option Ctor → Nat → List (Nat × Option Ctor)} {cur : Nat} {st : St}
    (h : St.Wf st) : Nested D cur st st where
  wf := h
  ext := Ext.refl _
  resolves := fun _ _ _ _ _ _ _ hrk => Or.inl hrk

theorem Nested.comp {D1 D2 : Option Ctor → Nat → List (Nat × Option Ctor)} {cur : Nat}
    {st st1 st2 : St} (h1 : Nested D1 cur st st1) (h2 : Nested D2 cur st1 st2) :
    Nested (fun env ty => D2 env ty ++ D1 env ty) cur st st2 where
  wf := h2.wf
  ext := h1.ext.trans h2.ext
  resolves := by
    intro ty fin env hfin hx henv rk hrk
    rcases h2.resolves ty fin env hfin hx henv rk hrk with hrk1 | hnew2
    · rcases h1.resolves ty fin env hfin (h2.ext.trans hx) henv rk hrk1 with hold | hnew1
      · exact Or.inl hold
      · exact Or.inr (List.mem_append_right _ hnew1)
    · exact Or.inr (List.mem_append_left _ hnew2)

/-- A nested blueprint `b`: it is entered (its scope `st.next` is created below `cur` and its own registrations are
    walked: `hw`), then the blueprints nested in it are processed (`h3`). -/
theorem nest_spec {b : Bp} {cur : Nat} {st st2 st3 : St} (h : st.Wf)
    (hw : OwnWalk b st.next { st.addScope cur with nested := st.nested ++ [(st.next, cur)] } st2)
    (h3 : Nested (fun env ty => nestedDesig env ty b) st.next st2 st3) :
    Nested (fun env ty => nestedItem env ty (.nest b)) cur st st3 := by
  obtain ⟨es, hes, hb⟩ := hw.edges
  obtain ⟨rs, hrs, _⟩ := hw.routes
  have hedge2 : (cur, st.next) ∈ st2.edges := by
    rw [hes]
    exact List.mem_append_left _ (List.mem_append_right _ (List.mem_singleton.2 rfl))
  -- entering `b` adds its registrations, all against the new scope, and the edge to the new scope
  have hx2 : Ext st st2 :=
    { next := Nat.le_of_succ_le hw.next
      regs := by
        refine ⟨_, hw.regs, fun r hr => ?_⟩
        obtain ⟨c, _, rfl⟩ := List.mem_map.1 hr
        exact Nat.le_refl _
      edges := by
        refine ⟨(cur, st.next) :: es, hes.trans (List.append_cons ..).symm, ?_⟩
        exact List.forall_mem_cons.2 ⟨Nat.le_refl _, fun e he => Nat.le_of_succ_le (hb e he)⟩
      routes := ⟨rs, hrs⟩
      mws := hw.mws }
  refine { wf := h3.wf, ext := hx2.trans h3.ext, resolves := fun ty fin env hfin hx henv rk hrk => ?_ }
  have hx2fin : Ext st2 fin := h3.ext.trans hx
  obtain ⟨hlook, hown⟩ := own_resolve hw (Nat.lt_succ_self _) h.regs hfin hx2fin ty
  have hsc : getF fin st.next ty = (ownLast b ty).or env := by
    rw [getF_edge hfin (hx2fin.edge hedge2), hlook, henv]
  simp only [nestedItem, List.mem_append, List.mem_map]
  rcases h3.resolves ty fin _ hfin hx hsc rk hrk with hrk2 | hdeep
  · rcases hown rk hrk2 with hold | ⟨hroute, hget⟩
    · exact Or.inl hold
    · exact Or.inr (Or.inl ⟨rk.1, hroute, by rw [hget, hsc]⟩)
  · exact Or.inr (Or.inr hdeep)

mutual
  /-- **C04 — the scope walk implements the documented rule, on every blueprint**: inside the blueprints nested in `b`
      every route resolves a type to what the rule designates, given what `b`'s own scope resolves it to. -/
  theorem kids_spec : ∀ (b : Bp) (cur : Nat) (st : St), st.Wf → cur < st.next →
      Nested (fun env ty => nestedDesig env ty b) cur st (kids b cur st)
    | .nil => fun _ _ h _ => Nested.refl h
    | .cons i rest => fun cur st h hc =>
      have h1 := kids_spec rest cur st h hc
      h1.comp (kid_spec i cur _ h1.wf (Nat.lt_of_lt_of_le hc h1.ext.next))
  theorem kid_spec : ∀ (i : Item) (cur : Nat) (st : St), st.Wf → cur < st.next →
      Nested (fun env ty => nestedItem env ty i) cur st (kid i cur st)
    | .ctor _ | .mw _ | .route _ | .other => fun _ _ h _ => Nested.refl h
    | .nest b => fun cur st h hc =>
      have h0 : St.Wf { st.addScope cur with nested := st.nested ++ [(st.next, cur)] } :=
        { addScope_wf st cur h hc with }
      have hw := walkOwn_spec b st.next _ h0 (Nat.lt_succ_self _)
      nest_spec h hw (kids_spec b st.next _ hw.wf hw.next)
end

theorem process_wf (b : Bp) : (process b).Wf :=
  have hw := walkOwn_spec b 0 {} wf_init (by decide)
  (kids_spec b 0 _ (addScope_wf _ 0 hw.wf hw.wf.pos) (Nat.succ_pos _)).wf

mutual
  /-- the blueprint with the roles of routes and middlewares exchanged: the walk does not tell them apart
      (`process_swap`), nor does the rule (`designated_swap`) -/
  def Bp.swap : Bp → Bp
    | .nil => .nil
    | .cons i rest => .cons i.swap rest.swap
  def Item.swap : Item → Item
    | .mw m => .route m
    | .route r => .mw r
    | .nest b => .nest b.swap
    | i => i
end

def St.swap (st : St) : St := { st with routes := st.mws, mws := st.routes }

theorem walkOwn_swap : ∀ (b : Bp) (cur : Nat) (st : St),
    walkOwn b.swap cur st.swap = (walkOwn b cur st).swap
  | .nil, _, _ => rfl
  | .cons (.ctor c) rest, cur, st =>
    walkOwn_swap rest cur { st with regs := st.regs ++ [(cur, c)] }
  | .cons (.mw m) rest, cur, st =>
    walkOwn_swap rest cur { st.addScope cur with mws := st.mws ++ [(m, st.next)] }
  | .cons (.route r) rest, cur, st =>
    walkOwn_swap rest cur { st.addScope cur with routes := st.routes ++ [(r, st.next)] }
  | .cons (.nest _) rest, cur, st | .cons .other rest, cur, st => walkOwn_swap rest cur st

mutual
  theorem kids_swap : ∀ (b : Bp) (cur : Nat) (st : St),
      kids b.swap cur st.swap = (kids b cur st).swap
    | .nil, _, _ => rfl
    | .cons i rest, cur, st => by
      rw [Bp.swap, kids, kids_swap rest cur st, kid_swap i cur _, kids]
  theorem kid_swap : ∀ (i : Item) (cur : Nat) (st : St),
      kid i.swap cur st.swap = (kid i cur st).swap
    | .ctor _, _, _ | .mw _, _, _ | .route _, _, _ | .other, _, _ => rfl
    | .nest b, cur, st => by
      rw [Item.swap, kid, kid]
      have hown := walkOwn_swap b st.next
        { st.addScope cur with nested := st.nested ++ [(st.next, cur)] }
      exact (congrArg (kids b.swap st.next) hown).trans (kids_swap b st.next _)
end

theorem process_swap (b : Bp) : process b.swap = (process b).swap := by
  show kids b.swap 0 ((walkOwn b.swap 0 (St.swap {})).addScope 0) = _
  rw [walkOwn_swap]
  exact kids_swap b 0 ((walkOwn b 0 {}).addScope 0)

theorem ownCtors_swap : ∀ b : Bp, ownCtors b.swap = ownCtors b
  | .nil => rfl
  | .cons (.ctor c) rest => congrArg (c :: ·) (ownCtors_swap rest)
  | .cons (.mw _) rest | .cons (.route _) rest | .cons (.nest _) rest | .cons .other rest =>
    ownCtors_swap rest

theorem ownRoutes_swap : ∀ b : Bp, ownRoutes b.swap = ownMwIds b
  | .nil => rfl
  | .cons (.mw m) rest => congrArg (m :: ·) (ownRoutes_swap rest)
  | .cons (.ctor _) rest | .cons (.route _) rest | .cons (.nest _) rest | .cons .other rest =>
    ownRoutes_swap rest

theorem ownLast_swap (b : Bp) (ty : Nat) : ownLast b.swap ty = ownLast b ty := by
  rw [ownLast, ownCtors_swap]
  rfl

mutual
  theorem nestedDesig_swap (env : Option Ctor) (ty : Nat) :
      ∀ b : Bp, nestedDesig env ty b.swap = nestedDesigM env ty b
    | .nil => rfl
    | .cons i rest => by
      rw [Bp.swap, nestedDesig, nestedItem_swap env ty i, nestedDesig_swap env ty rest,
        nestedDesigM]
  theorem nestedItem_swap (env : Option Ctor) (ty : Nat) :
      ∀ i : Item, nestedItem env ty i.swap = nestedItemM env ty i
    | .ctor _ | .mw _ | .route _ | .other => rfl
    | .nest b => by
      rw [Item.swap, nestedItem, nestedItemM, ownRoutes_swap, ownLast_swap,
        nestedDesig_swap _ ty b]
end

theorem designated_swap (b : Bp) (ty : Nat) : designated b.swap ty = designatedM b ty := by
  rw [designated, designatedM, ownRoutes_swap, ownLast_swap, nestedDesig_swap]
end Pxv.Scope
