import Pxv.Model.DepGraph
import Pxv.Lemmas.Basic
/-! `DependencyGraph::build`: when the loop ends by itself, the graph is closed under error handlers, transformers
    and (for visited components) dependencies; it contains the root and the observers; and every edge of it is
    justified by the database. Each fact comes from a property kept by the three kinds of step the loop is made
    of (a visit, a step of the error-handler phase, a step of the transformer phase), carried through the loops
    once. -/
namespace Pxv.Dep

def targets (w : List Item) : List Nat := w.map (·.1)

theorem mem_targets {w : List Item} {x : Nat} : x ∈ targets w ↔ ∃ i ∈ w, i.1 = x := List.mem_map

theorem mem_addNode {ns : List Nat} {c x : Nat} : x ∈ addNode ns c ↔ x ∈ ns ∨ x = c :=
  mem_insertEnd
theorem mem_addEdge {es : List (Nat × Nat)} {e x : Nat × Nat} :
    x ∈ addEdge es e ↔ x ∈ es ∨ x = e :=
  mem_insertEnd
theorem mem_pushItem {w : List Item} {i j : Item} : i ∈ pushItem w j ↔ i ∈ w ∨ i = j :=
  mem_insertEnd

theorem prefix_foldl_insertEnd {α β} [BEq α] (f : β → α) : ∀ (ds : List β) (l : List α),
    l <+: ds.foldl (fun l d => if l.contains (f d) then l else l ++ [f d]) l
  | [], l => List.prefix_refl l
  | d :: ds, l => by
    refine List.IsPrefix.trans ?_ (prefix_foldl_insertEnd f ds _)
    dsimp only
    split
    · exact List.prefix_refl l
    · exact List.prefix_append l _

theorem visit_eq (db : DB) (s : St) (it : Item) : visit db s it =
    { nodes := addNode s.nodes it.1
      edges := match it.2 with
        | some (true, p) => addEdge s.edges (p, it.1)
        | some (false, ch) => addEdge s.edges (it.1, ch)
        | none => s.edges
      work := if s.processed.contains it.1 || !db.isCompute it.1 then s.work
        else (db.depsOf it.1).foldl (fun w d => pushItem w (d, some (false, it.1))) s.work
      processed := if s.processed.contains it.1 then s.processed else s.processed ++ [it.1]
      handled := s.handled, transformed := s.transformed } := by
  obtain ⟨c, nb⟩ := it
  unfold visit
  dsimp only
  -- the neighbour decides the edge; then both sides branch alike on "explored already?" and
  -- "compute?"
  rcases nb with _ | ⟨_ | _, p⟩ <;> cases s.processed.contains c <;> cases db.isCompute c <;> rfl

theorem visit_handled (db : DB) (s : St) (it : Item) : (visit db s it).handled = s.handled := by
  rw [visit_eq]
theorem visit_transformed (db : DB) (s : St) (it : Item) :
    (visit db s it).transformed = s.transformed := by
  rw [visit_eq]
theorem mem_visit_processed {db : DB} {s : St} {it : Item} {c : Nat} :
    c ∈ (visit db s it).processed ↔ c ∈ s.processed ∨ c = it.1 := by
  rw [visit_eq]
  exact mem_insertEnd
theorem mem_visit_nodes {db : DB} {s : St} {it : Item} {x : Nat} :
    x ∈ (visit db s it).nodes ↔ x ∈ s.nodes ∨ x = it.1 := by
  rw [visit_eq]
  exact mem_addNode

theorem mem_visit_work {db : DB} {s : St} {it i : Item} : i ∈ (visit db s it).work ↔
    i ∈ s.work ∨ (it.1 ∉ s.processed ∧ db.isCompute it.1 = true ∧
      ∃ d ∈ db.depsOf it.1, i = (d, some (false, it.1))) := by
  rw [visit_eq]
  dsimp only
  by_cases hp : it.1 ∈ s.processed
  · simp [hp]
  · cases hc : db.isCompute it.1
    · simp
    · rw [if_neg (by simp [hp])]
      exact (mem_foldl_insertEnd (fun d => (d, some (false, it.1))) _ _ _).trans (by simp [hp])

def heStep (db : DB) (s : St) (c : Nat) : St :=
  if s.handled.contains c then s
  else
    let s := if db.isCompute c then
        match db.ehOf c with
        | some h => { s with work := pushItem s.work (h, some (true, c)) }
        | none => s
      else s
    { s with handled := s.handled ++ [c] }

theorem handleErrors_eq (db : DB) (s : St) : handleErrors db s = s.nodes.foldl (heStep db) s := rfl

theorem heStep_eq (db : DB) (s : St) (c : Nat) : heStep db s c = if s.handled.contains c then s else
    { s with work := match (if db.isCompute c then db.ehOf c else none) with
                | some h => pushItem s.work (h, some (true, c))
                | none => s.work
             handled := s.handled ++ [c] } := by
  unfold heStep
  cases s.handled.contains c with
  | true => rfl
  | false => cases db.isCompute c <;> cases db.ehOf c <;> rfl

theorem heStep_nodes (db : DB) (s : St) (c : Nat) : (heStep db s c).nodes = s.nodes := by
  rw [heStep_eq]
  split <;> rfl

theorem mem_heStep_handled (db : DB) (s : St) (c x : Nat) :
    x ∈ (heStep db s c).handled ↔ x ∈ s.handled ∨ x = c := by
  rw [heStep_eq, apply_ite St.handled]
  exact mem_insertEnd

def atStep (db : DB) (s : St) (c : Nat) : St :=
  if s.transformed.contains c then s
  else
    let s := if db.isCompute c then
        (db.trOf c).foldl (fun s t => { s with nodes := addNode s.nodes t, edges := addEdge s.edges (c, t) }) s
      else s
    { s with transformed := s.transformed ++ [c] }

theorem addTransformers_eq (db : DB) (s : St) : addTransformers db s = s.nodes.foldl (atStep db) s := rfl

theorem trFold_eq (c : Nat) : ∀ (ts : List Nat) (s : St),
    ts.foldl (fun s t => { s with nodes := addNode s.nodes t, edges := addEdge s.edges (c, t) }) s =
      { s with nodes := ts.foldl addNode s.nodes, edges := ts.foldl (fun es t => addEdge es (c, t)) s.edges }
  | [], _ => rfl
  | t :: ts, s => by
    rw [List.foldl_cons, trFold_eq c ts]
    rfl

theorem atStep_eq (db : DB) (s : St) (c : Nat) : atStep db s c = if s.transformed.contains c then s else
    { s with nodes := (if db.isCompute c then db.trOf c else []).foldl addNode s.nodes
             edges := (if db.isCompute c then db.trOf c else []).foldl (fun es t => addEdge es (c, t)) s.edges
             transformed := s.transformed ++ [c] } := by
  unfold atStep
  cases s.transformed.contains c with
  | true => rfl
  | false =>
    cases db.isCompute c with
    | false => rfl
    | true =>
      simp only [trFold_eq]
      rfl

theorem atStep_handled (db : DB) (s : St) (c : Nat) : (atStep db s c).handled = s.handled := by
  rw [atStep_eq]
  split <;> rfl

theorem mem_atStep_transformed (db : DB) (s : St) (c x : Nat) :
    x ∈ (atStep db s c).transformed ↔ x ∈ s.transformed ∨ x = c := by
  rw [atStep_eq, apply_ite St.transformed]
  exact mem_insertEnd

theorem atStep_prefix (db : DB) (s : St) (c : Nat) : s.nodes <+: (atStep db s c).nodes := by
  rw [atStep_eq]
  split
  · exact List.prefix_refl _
  · exact prefix_foldl_insertEnd id _ _

theorem atStep_work (db : DB) (s : St) (c : Nat) : (atStep db s c).work = s.work := by
  rw [atStep_eq]
  split <;> rfl

/-- what has been asked so far has been answered: the dependencies of every explored component, the error handler of every
    component looked at by the second phase, the transformers of every component looked at by the third, are nodes of the
    graph or waiting to be visited -/
structure Inv (db : DB) (s : St) : Prop where
  deps : ∀ c ∈ s.processed, db.isCompute c = true → ∀ d ∈ db.depsOf c, d ∈ s.nodes ∨ d ∈ targets s.work
  eh : ∀ c ∈ s.handled, db.isCompute c = true → ∀ h, db.ehOf c = some h → h ∈ s.nodes ∨ h ∈ targets s.work
  tr : ∀ c ∈ s.transformed, db.isCompute c = true → ∀ t ∈ db.trOf c, t ∈ s.nodes

/-- the state only grows, except that a visited item leaves the worklist for the graph -/
def Grows (s s' : St) : Prop :=
  (∀ x ∈ s.nodes, x ∈ s'.nodes) ∧ (∀ x ∈ targets s.work, x ∈ s'.nodes ∨ x ∈ targets s'.work)

theorem Grows.keep {s s' : St} (hg : Grows s s') {x : Nat} (h : x ∈ s.nodes ∨ x ∈ targets s.work) :
    x ∈ s'.nodes ∨ x ∈ targets s'.work :=
  h.elim (fun h => .inl (hg.1 x h)) (hg.2 x)

theorem Inv.step {db : DB} {s s' : St} (h : Inv db s) (hg : Grows s s')
    (hp : ∀ c ∈ s'.processed, c ∈ s.processed ∨
      (db.isCompute c = true → ∀ d ∈ db.depsOf c, d ∈ s'.nodes ∨ d ∈ targets s'.work))
    (hh : ∀ c ∈ s'.handled, c ∈ s.handled ∨
      (db.isCompute c = true → ∀ e, db.ehOf c = some e → e ∈ s'.nodes ∨ e ∈ targets s'.work))
    (ht : ∀ c ∈ s'.transformed, c ∈ s.transformed ∨
      (db.isCompute c = true → ∀ t ∈ db.trOf c, t ∈ s'.nodes)) :
    Inv db s' where
  deps c hc hcomp d hd := by
    rcases hp c hc with hold | hnew
    · exact hg.keep (h.deps c hold hcomp d hd)
    · exact hnew hcomp d hd
  eh c hc hcomp e he := by
    rcases hh c hc with hold | hnew
    · exact hg.keep (h.eh c hold hcomp e he)
    · exact hnew hcomp e he
  tr c hc hcomp t htm := by
    rcases ht c hc with hold | hnew
    · exact hg.1 t (h.tr c hold hcomp t htm)
    · exact hnew hcomp t htm

theorem inv_of_grows {db : DB} {s s' : St} (h : Inv db s) (hg : Grows s s')
    (hp : s'.processed = s.processed) (hh : s'.handled = s.handled) (ht : s'.transformed = s.transformed) : Inv db s' :=
  h.step hg (fun _ hc => .inl (hp ▸ hc)) (fun _ hc => .inl (hh ▸ hc)) (fun _ hc => .inl (ht ▸ hc))

theorem dropLast_append_of_getLast? {α} {l : List α} {a : α} (h : l.getLast? = some a) :
    l.dropLast ++ [a] = l := by
  obtain ⟨ys, rfl⟩ := List.getLast?_eq_some_iff.1 h
  simp

theorem visit_grows {db : DB} {s : St} {it : Item} (hl : s.work.getLast? = some it) :
    Grows s (visit db { s with work := s.work.dropLast } it) := by
  refine ⟨fun x hx => mem_visit_nodes.2 (.inl hx), fun x hx => ?_⟩
  rw [← dropLast_append_of_getLast? hl, targets, List.map_append, List.mem_append] at hx
  rcases hx with hx | hx
  · obtain ⟨i, hi, rfl⟩ := mem_targets.1 hx
    exact .inr (mem_targets.2 ⟨i, mem_visit_work.2 (.inl hi), rfl⟩)
  · exact .inl (mem_visit_nodes.2 (.inr (by simpa using hx)))

theorem heStep_grows (db : DB) (s : St) (c : Nat) : Grows s (heStep db s c) := by
  rw [heStep_eq]
  split
  · exact ⟨fun _ h => h, fun _ h => .inr h⟩
  · refine ⟨fun _ h => h, fun x hx => .inr ?_⟩
    dsimp only
    split
    · obtain ⟨i, hi, rfl⟩ := mem_targets.1 hx
      exact mem_targets.2 ⟨i, mem_pushItem.2 (.inl hi), rfl⟩
    · exact hx

theorem atStep_grows (db : DB) (s : St) (c : Nat) : Grows s (atStep db s c) :=
  ⟨fun _ h => (atStep_prefix db s c).subset h, fun _ h => .inr (atStep_work db s c ▸ h)⟩

structure Stable (db : DB) (P : St → Prop) : Prop where
  visit : ∀ s it, P s → s.work.getLast? = some it → P (visit db { s with work := s.work.dropLast } it)
  he : ∀ s c, P s → P (heStep db s c)
  tr : ∀ s c, P s → P (atStep db s c)

theorem Stable.visitAll {db : DB} {P : St → Prop} (h : Stable db P) :
    ∀ (fuel : Nat) (s : St), P s → P (visitAll db fuel s)
  | 0, _, hs => hs
  | fuel + 1, s, hs => by
    unfold Dep.visitAll
    split
    · exact hs
    · rename_i it hl
      exact h.visitAll fuel _ (h.visit s it hs hl)

theorem Stable.round {db : DB} {P : St → Prop} (h : Stable db P) (vf : Nat) (s : St) (hs : P s) :
    P (round db vf s).1 := by
  have h1 : P (Dep.visitAll db vf s) := h.visitAll vf s hs
  have h2 : P (handleErrors db (Dep.visitAll db vf s)) :=
    List.foldlRecOn _ _ h1 fun s hs c _ => h.he s c hs
  exact List.foldlRecOn _ _ h2 fun s hs c _ => h.tr s c hs

theorem loopWith_spec {rnd : St → St × Bool} {P Q : St → Prop}
    (hr : ∀ s, P s → P (rnd s).1 ∧ ((rnd s).2 = true → Q (rnd s).1)) :
    ∀ (fuel : Nat) (s : St), P s →
      P (loopWith rnd fuel s).1 ∧ ((loopWith rnd fuel s).2 = true → Q (loopWith rnd fuel s).1)
  | 0, _, hs => ⟨hs, fun h => by cases h⟩
  | fuel + 1, s, hs => by
    unfold loopWith
    dsimp only
    split
    · rename_i hbreak
      exact ⟨(hr s hs).1, fun _ => (hr s hs).2 hbreak⟩
    · exact loopWith_spec hr fuel _ (hr s hs).1

theorem inv_stable (db : DB) : Stable db (Inv db) where
  visit s it h hl := by
    refine h.step (visit_grows hl) (fun c hc => ?_)
      (fun c hc => .inl (by rwa [visit_handled] at hc))
      (fun c hc => .inl (by rwa [visit_transformed] at hc))
    rcases mem_visit_processed.1 hc with hc | rfl
    · exact .inl hc
    · by_cases hp : it.1 ∈ s.processed
      · exact .inl hp
      · -- explored just now: its dependencies have been pushed
        refine .inr fun hcomp d hd => .inr ?_
        exact mem_targets.2
          ⟨(d, some (false, it.1)), mem_visit_work.2 (.inr ⟨hp, hcomp, d, hd, rfl⟩), rfl⟩
  he s c h := by
    have hg := heStep_grows db s c
    rw [heStep_eq] at hg ⊢
    split
    · exact h
    · rename_i hnew
      rw [if_neg hnew] at hg
      refine h.step hg (fun _ hc => .inl hc) (fun c' hc => ?_) (fun _ hc => .inl hc)
      rcases List.mem_append.1 hc with hc | hc
      · exact .inl hc
      · -- handled just now: its error handler has been pushed
        obtain rfl := List.mem_singleton.1 hc
        refine .inr fun hcomp e he => .inr ?_
        simp only [hcomp, if_true, he]
        exact mem_targets.2 ⟨_, mem_pushItem.2 (.inr rfl), rfl⟩
  tr s c h := by
    have hg := atStep_grows db s c
    rw [atStep_eq] at hg ⊢
    split
    · exact h
    · rename_i hnew
      rw [if_neg hnew] at hg
      refine h.step hg (fun _ hc => .inl hc) (fun _ hc => .inl hc) (fun c' hc => ?_)
      rcases List.mem_append.1 hc with hc | hc
      · exact .inl hc
      · -- transformed just now: its transformers have been added
        obtain rfl := List.mem_singleton.1 hc
        refine .inr fun hcomp t ht => ?_
        simp only [hcomp, if_true]
        exact (mem_foldl_insertEnd id _ _ _).2 (.inr ⟨t, ht, rfl⟩)

/-- the graph is closed: every compute node has its error handler and its transformers in the graph, and every explored
    compute node has the constructors of its inputs there -/
def Closed (db : DB) (s : St) : Prop :=
  ∀ c ∈ s.nodes, db.isCompute c = true →
    (∀ e, db.ehOf c = some e → e ∈ s.nodes) ∧ (∀ t ∈ db.trOf c, t ∈ s.nodes) ∧
    (c ∈ s.processed → ∀ d ∈ db.depsOf c, d ∈ s.nodes)

/-- a round that says `break` leaves nothing to visit and a closed graph: the second phase has looked at every node, the
    third one added none, so it has looked at every node as well, and nothing is pending -/
theorem round_closed {db : DB} {vf : Nat} {s : St} (h : Inv db s) (hflag : (round db vf s).2 = true) :
    Closed db (round db vf s).1 := by
  have h3 := (inv_stable db).round vf s h
  unfold round at hflag h3 ⊢
  dsimp only at hflag h3 ⊢
  rw [handleErrors_eq, addTransformers_eq] at *
  generalize visitAll db vf s = s1 at *
  have hn2 : (s1.nodes.foldl (heStep db) s1).nodes = s1.nodes :=
    List.foldlRecOn (motive := fun s => s.nodes = s1.nodes) s1.nodes (heStep db) rfl
      fun s e c _ => (heStep_nodes db s c).trans e
  have hh2 : ∀ c ∈ s1.nodes, c ∈ (s1.nodes.foldl (heStep db) s1).handled := fun c hc =>
    (mem_foldl (mem_heStep_handled db) s1.nodes s1 c).2 (.inr ⟨c, hc, rfl⟩)
  generalize s1.nodes.foldl (heStep db) s1 = s2 at *
  have hp : s2.nodes <+: (s2.nodes.foldl (atStep db) s2).nodes :=
    List.foldlRecOn (motive := fun s => s2.nodes <+: s.nodes) s2.nodes (atStep db)
      (List.prefix_refl _) fun s e c _ => e.trans (atStep_prefix db s c)
  have hh3 : (s2.nodes.foldl (atStep db) s2).handled = s2.handled :=
    List.foldlRecOn (motive := fun s => s.handled = s2.handled) s2.nodes (atStep db) rfl
      fun s e c _ => (atStep_handled db s c).trans e
  have ht3 : ∀ c ∈ s2.nodes, c ∈ (s2.nodes.foldl (atStep db) s2).transformed := fun c hc =>
    (mem_foldl (mem_atStep_transformed db) s2.nodes s2 c).2 (.inr ⟨c, hc, rfl⟩)
  generalize s2.nodes.foldl (atStep db) s2 = s3 at *
  simp only [Bool.and_eq_true, List.isEmpty_iff, beq_iff_eq] at hflag
  obtain ⟨hwork, hsize⟩ := hflag
  have hnodes : s2.nodes = s3.nodes := hp.eq_of_length (by rw [hsize, hn2])
  have hnt : ∀ x, x ∉ targets s3.work := by simp [hwork, targets]
  intro c hc hcomp
  have hc2 : c ∈ s2.nodes := hnodes ▸ hc
  have hhandled : c ∈ s3.handled := hh3 ▸ hh2 c (hn2 ▸ hc2)
  have htransformed : c ∈ s3.transformed := ht3 c hc2
  refine ⟨fun e he => ?_, h3.tr c htransformed hcomp, fun hproc d hd => ?_⟩
  · exact (h3.eh c hhandled hcomp e he).resolve_right (hnt e)
  · exact (h3.deps c hproc hcomp d hd).resolve_right (hnt d)

theorem build_spec {db : DB} {P Q : St → Prop} (hP : Stable db P)
    (hQ : ∀ vf s, P s → (round db vf s).2 = true → Q (round db vf s).1)
    (fuel root : Nat) (observers : List Nat)
    (h0 : P { work := (observers.map (fun o => (o, none))) ++ [(root, none)] }) :
    P (build db fuel root observers).1 ∧
      ((build db fuel root observers).2 = true → Q (build db fuel root observers).1) :=
  loopWith_spec (fun s hs => ⟨hP.round fuel s hs, hQ fuel s hs⟩) fuel _ h0

theorem inv_init (db : DB) (w : List Item) : Inv db { work := w } where
  deps _ hc := (List.not_mem_nil hc).elim
  eh _ hc := (List.not_mem_nil hc).elim
  tr _ hc := (List.not_mem_nil hc).elim

/-- The root and the observers are nodes of the graph whenever the loop ends by itself: they start on the worklist, every step
    `Grows` the state, and at the end the worklist is empty. -/
theorem build_start_nodes (db : DB) (fuel root : Nat) (observers : List Nat)
    (h : (build db fuel root observers).2 = true) {x : Nat} (hx : x ∈ observers ++ [root]) :
    x ∈ (build db fuel root observers).1.nodes := by
  have hP : Stable db (fun s => x ∈ s.nodes ∨ x ∈ targets s.work) :=
    { visit := fun s it h hl => (visit_grows hl).keep h
      he := fun s c => (heStep_grows db s c).keep
      tr := fun s c => (atStep_grows db s c).keep }
  have h0 : x ∈ targets (observers.map (fun o => (o, none)) ++ [(root, none)]) := by
    simpa [targets] using hx
  refine (build_spec hP (Q := fun s => x ∈ s.nodes) (fun vf s hs hf => ?_)
    fuel root observers (.inr h0)).2 h
  have hwork : (round db vf s).1.work = [] := by
    unfold round at hf ⊢
    simp only [Bool.and_eq_true, List.isEmpty_iff] at hf
    exact hf.1
  refine (hP.round vf s hs).resolve_right ?_
  simp [hwork, targets]

/-- an edge the database justifies: a constructor feeding a component, a component and its error handler, a component and one of
    its transformers -/
def Just (db : DB) (e : Nat × Nat) : Prop :=
  e.1 ∈ db.depsOf e.2 ∨ db.ehOf e.1 = some e.2 ∨ e.2 ∈ db.trOf e.1

def ItemJust (db : DB) (it : Item) : Prop :=
  match it.2 with
  | none => True
  | some (true, p) => db.ehOf p = some it.1
  | some (false, ch) => it.1 ∈ db.depsOf ch ∧ db.isCompute ch = true

/-- every edge of the graph, and every edge a pending work item will add, is justified by the database -/
structure EInv (db : DB) (s : St) : Prop where
  edges : ∀ e ∈ s.edges, Just db e
  work : ∀ it ∈ s.work, ItemJust db it

theorem einv_stable (db : DB) : Stable db (EInv db) where
  visit s it h hl := by
    have hw := dropLast_append_of_getLast? hl
    have hit : ItemJust db it := h.work it (hw ▸ List.mem_concat_self)
    refine ⟨fun e he => ?_, fun i hi => ?_⟩
    · rw [visit_eq] at he
      obtain ⟨c, nb⟩ := it
      cases nb with
      | none => exact h.edges e he
      | some n =>
        obtain ⟨isParent, p⟩ := n
        cases isParent with
        | false =>
          -- `c` was pushed as a dependency of `p`
          rcases mem_addEdge.1 he with hold | rfl
          · exact h.edges e hold
          · exact .inl hit.1
        | true =>
          -- `c` was pushed as the error handler of `p`
          rcases mem_addEdge.1 he with hold | rfl
          · exact h.edges e hold
          · exact .inr (.inl hit)
    · rcases mem_visit_work.1 hi with hi | ⟨_, hcomp, d, hd, rfl⟩
      · exact h.work i (hw ▸ List.mem_append_left _ hi)
      · exact ⟨hd, hcomp⟩
  he s c h := by
    rw [heStep_eq]
    split
    · exact h
    · refine ⟨h.edges, fun i hi => ?_⟩
      dsimp only at hi
      split at hi
      · rename_i e he
        rcases mem_pushItem.1 hi with hold | rfl
        · exact h.work i hold
        · -- the item pushed for the error handler `e` of the compute component `c`
          split at he
          · exact he
          · cases he
      · exact h.work i hi
  tr s c h := by
    rw [atStep_eq]
    split
    · exact h
    · refine ⟨fun e he => ?_, h.work⟩
      rcases (mem_foldl_insertEnd (fun t => (c, t)) _ _ e).1 he with hold | ⟨t, ht, rfl⟩
      · exact h.edges e hold
      · split at ht
        · exact .inr (.inr ht)
        · cases ht

theorem build_einv (db : DB) (fuel root : Nat) (observers : List Nat) :
    EInv db (build db fuel root observers).1 := by
  -- the start items hang off nothing
  have h0 : EInv db { work := (observers.map (fun o => (o, none))) ++ [(root, none)] } :=
    { edges := fun _ he => (List.not_mem_nil he).elim
      work := fun it hit => by
        simp only [List.mem_append, List.mem_map, List.mem_singleton] at hit
        rcases hit with ⟨o, _, rfl⟩ | rfl <;> exact trivial }
  exact (build_spec (einv_stable db) (Q := fun _ => True) (fun _ _ _ _ => trivial)
    fuel root observers h0).1

end Pxv.Dep
