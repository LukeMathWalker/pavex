import Pxv.Lemmas.LifecyclePlan
/-! Hoisting in a uniform pipeline (steps 2 and 3 of `RequestHandlerPipeline::new`): which request-scoped
    constructors `builtAt` hoists and into which stage, what that makes of the parameters the reverse
    walk hands from stage to stage, and that every request-scoped node sits at the one home of its
    constructor. -/
namespace Pxv.Life
open Pxv.Scope

theorem mem_dedupNat : ∀ (l : List Nat) (x : Nat), x ∈ dedupNat l ↔ x ∈ l := by
  intro l
  induction l with
  | nil => intro x; simp [dedupNat]
  | cons a as ih =>
    intro x
    simp only [dedupNat, List.mem_cons, List.mem_filter, bne_iff_ne, ne_eq, ih]
    by_cases hx : x = a <;> simp [hx]

theorem minList_le (l : List Nat) (v : Nat) (hv : v ∈ l) : minList l ≤ v := by
  induction l using minList.induct with
  | case1 => cases hv
  | case2 x =>
    cases List.mem_singleton.mp hv
    exact Nat.le_refl _
  | case3 x xs hne ih =>
    obtain ⟨y, ys, rfl⟩ := List.exists_cons_of_ne_nil hne
    simp only [minList]
    rcases List.mem_cons.mp hv with rfl | hv
    · exact Nat.min_le_left _ _
    · exact Nat.le_trans (Nat.min_le_right _ _) (ih hv)

theorem minList_mem (l : List Nat) (h : l ≠ []) : minList l ∈ l := by
  induction l using minList.induct with
  | case1 => exact absurd rfl h
  | case2 x => simp [minList]
  | case3 x xs hne ih =>
    obtain ⟨y, ys, rfl⟩ := List.exists_cons_of_ne_nil hne
    simp only [minList]
    rcases Nat.le_total x (minList (y :: ys)) with h | h
    · rw [Nat.min_eq_left h]; exact List.mem_cons_self
    · rw [Nat.min_eq_right h]; exact List.mem_cons_of_mem _ (ih hne)

/-- the stages at which the users of `x` would have to build it -/
def minesOf (us : List (Nat × Nat)) (x : Nat) : List Nat := (us.filter (fun u => u.1 == x)).map (·.2)

theorem mem_minesOf {us : List (Nat × Nat)} {x v : Nat} : v ∈ minesOf us x ↔ (x, v) ∈ us := by
  simp only [minesOf, List.mem_map, List.mem_filter, beq_iff_eq]
  constructor
  · rintro ⟨⟨x', v'⟩, ⟨hu, rfl⟩, rfl⟩
    exact hu
  · exact fun h => ⟨(x, v), ⟨h, rfl⟩, rfl⟩

theorem builtAt_mem {us : List (Nat × Nat)} {x b : Nat} :
    (x, b) ∈ builtAt us ↔ 1 < (minesOf us x).length ∧ b = minList (minesOf us x) := by
  simp only [builtAt, List.mem_filterMap, mem_dedupNat, Option.ite_none_right_eq_some,
    Option.some.injEq, Prod.mk.injEq]
  constructor
  · rintro ⟨y, _, hlen, rfl, hb⟩
    exact ⟨hlen, hb.symm⟩
  · rintro ⟨hlen, hb⟩
    -- `x` has a user, so it is among the ids `builtAt` goes through
    obtain ⟨v, hv⟩ := List.exists_mem_of_length_pos (Nat.lt_trans Nat.zero_lt_one hlen)
    have hx : x ∈ us.map (·.1) := List.mem_map.mpr ⟨_, mem_minesOf.mp hv, rfl⟩
    exact ⟨x, hx, hlen, rfl, hb.symm⟩

theorem builtAt_le {us : List (Nat × Nat)} {x b v : Nat} (h : (x, b) ∈ builtAt us) (hv : (x, v) ∈ us) : b ≤ v := by
  rw [(builtAt_mem.mp h).2]
  exact minList_le _ _ (mem_minesOf.mpr hv)

/-- if every user of `d` (with the stage it asks for) is also a user of `x`, and `d` is hoisted, so is `x`,
    not later than `d` -/
theorem builtAt_of_users_subset {us : List (Nat × Nat)} {d x b : Nat} (h : (d, b) ∈ builtAt us)
    (hlen : (minesOf us d).length ≤ (minesOf us x).length)
    (hsub : ∀ v, (d, v) ∈ us → (x, v) ∈ us) : ∃ b', (x, b') ∈ builtAt us ∧ b' ≤ b := by
  obtain ⟨h1, rfl⟩ := builtAt_mem.mp h
  -- the earliest stage a user of `d` asks for is asked for by a user of `x`
  have hd : minList (minesOf us d) ∈ minesOf us d :=
    minList_mem _ (List.ne_nil_of_length_pos (by omega))
  have hx : minList (minesOf us d) ∈ minesOf us x := mem_minesOf.mpr (hsub _ (mem_minesOf.mp hd))
  exact ⟨_, builtAt_mem.mpr ⟨by omega, rfl⟩, minList_le _ _ hx⟩

/-- the first-pass graph of a component (nothing prebuilt) -/
def firstPass (env : Env) (c : Comp) : Closure := (closureOf (env.get c.scope) [] .request env.fuel c.ins).1

/-- the stage a component asks its request-scoped values to be built in (↔ `build_in`) -/
def buildIn (k : Nat) (c : Comp) : Nat := if c.isWrapping then k else k - 1

theorem usersFrom_eq (env : Env) : ∀ (l : List StageC) (a : Nat),
    usersFrom env a l = (allComps a l).flatMap (fun kc => (firstPass env kc.2).rs.map (fun x => (x, buildIn kc.1 kc.2))) := by
  intro l
  induction l with
  | nil => intro a; rfl
  | cons s rest ih =>
    intro a
    simp only [usersFrom, allComps, List.flatMap_append, ih, List.flatMap_map]
    rfl

theorem users_mem {env : Env} {l : List StageC} {y v : Nat} :
    (y, v) ∈ usersFrom env 0 l ↔ ∃ kc ∈ allComps 0 l, y ∈ (firstPass env kc.2).rs ∧ v = buildIn kc.1 kc.2 := by
  simp only [usersFrom_eq, List.mem_flatMap, List.mem_map, Prod.mk.injEq]
  constructor
  · rintro ⟨kc, hkc, x, hx, rfl, rfl⟩
    exact ⟨kc, hkc, hx, rfl⟩
  · rintro ⟨kc, hkc, hy, rfl⟩
    exact ⟨kc, hkc, y, hy, rfl, rfl⟩

theorem users_count (env : Env) (l : List StageC) (y : Nat) :
    (minesOf (usersFrom env 0 l) y).length = ((allComps 0 l).map (fun kc => (firstPass env kc.2).rs.count y)).sum := by
  rw [minesOf, List.length_map, usersFrom_eq, List.filter_flatMap, List.length_flatMap]
  congr 1
  refine List.map_congr_left fun kc _ => ?_
  rw [List.filter_map, List.length_map, List.count_eq_length_filter]
  rfl

theorem firstPass_nodup (env : Env) (c : Comp) : (firstPass env c).rs.Nodup :=
  closure_dedup _ [] .request (by decide) _ _

/-- what `pipeline_partition` assumes of the constructors a uniform pipeline sees: ids identify them, dependency chains
    are shorter than the recursion depth, and `tyOf` gives the output type of an id (↔ `output_type()` where step 3
    removes from the state what the previous stage builds) -/
structure World (env : Env) (lk : Nat → Option CDef) (rank : Nat → Nat) (tyOf : Nat → Option Nat) : Prop where
  uid : UidInj lk
  deep : Deep lk rank
  fuel : ∀ t, rank t < env.fuel
  ty : ∀ t d, lk t = some d → tyOf d.uid = some t

theorem firstPass_sound {env : Env} {lk : Nat → Option CDef} {c : Comp} (hlk : env.get c.scope = lk) {y : Nat}
    (hy : y ∈ (firstPass env c).rs) : ∃ x, x.uid = y ∧ ∃ jm ∈ c.ins, Reach lk [] jm.1 x := by
  obtain ⟨n, hn, hlife, rfl⟩ := mem_rs.mp hy
  rw [firstPass, hlk] at hn
  exact ⟨n.ctor, rfl, closure_sound lk [] env.fuel c.ins n hn hlife⟩

theorem firstPass_complete {env : Env} {lk : Nat → Option CDef} {rank : Nat → Nat} {tyOf : Nat → Option Nat}
    (w : World env lk rank tyOf) {c : Comp} (hlk : env.get c.scope = lk) {jm : Nat × Mode} (hjm : jm ∈ c.ins)
    {x : CDef} (hr : Reach lk [] jm.1 x) : x.uid ∈ (firstPass env c).rs := by
  obtain ⟨n, hn, rfl⟩ :=
    closure_complete lk w.uid [] rank w.deep env.fuel w.fuel c.ins jm hjm x hr
  rw [firstPass, hlk]
  exact mem_rs.mpr ⟨n, hn, (reach_target hr).1, rfl⟩

/-- if `x` is reached from an input of the constructor `d`, every user of `d` is a user of `x` -/
theorem users_of_dep {env : Env} {lk : Nat → Option CDef} {rank : Nat → Nat} {tyOf : Nat → Option Nat}
    (w : World env lk rank tyOf) {c' : Comp} (hlk : env.get c'.scope = lk) {t : Nat} {d x : CDef} {jm : Nat × Mode}
    (hd : lk t = some d) (hjm : jm ∈ d.ins) (hr : Reach lk [] jm.1 x) (hmem : d.uid ∈ (firstPass env c').rs) :
    x.uid ∈ (firstPass env c').rs := by
  obtain ⟨d', hd', jm', hjm', hr'⟩ := firstPass_sound hlk hmem
  obtain ⟨_, _, t'', ht''⟩ := reach_target hr'
  cases w.uid t'' t _ _ ht'' hd hd'
  exact firstPass_complete w hlk hjm' (reach_trans hr' hjm hr)

/-- what a hoisted constructor depends on is hoisted too, not later -/
theorem hoisted_dep {env : Env} {lk : Nat → Option CDef} {rank : Nat → Nat} {tyOf : Nat → Option Nat}
    (w : World env lk rank tyOf) {l : List StageC} (hu : UniformStages env lk l) {t b : Nat} {d x : CDef}
    {jm : Nat × Mode} (hd : lk t = some d) (hjm : jm ∈ d.ins) (hr : Reach lk [] jm.1 x)
    (hb : (d.uid, b) ∈ builtAt (usersFrom env 0 l)) : ∃ b', (x.uid, b') ∈ builtAt (usersFrom env 0 l) ∧ b' ≤ b := by
  have hdx : ∀ kc ∈ allComps 0 l,
      d.uid ∈ (firstPass env kc.2).rs → x.uid ∈ (firstPass env kc.2).rs :=
    fun kc hkc => users_of_dep w (hu.get hkc) hd hjm hr
  refine builtAt_of_users_subset hb ?_ fun v hv => ?_
  · -- `x` has at least as many users as `d`: component by component, each counts at most once
    rw [users_count, users_count]
    refine sum_map_le _ _ _ fun kc hkc => ?_
    rw [(firstPass_nodup env kc.2).count, (firstPass_nodup env kc.2).count]
    by_cases hm : d.uid ∈ (firstPass env kc.2).rs
    · rw [if_pos hm, if_pos (hdx kc hkc hm)]
      exact Nat.le_refl _
    · rw [if_neg hm]
      exact Nat.zero_le _
  · obtain ⟨kc, hkc, hm, hv'⟩ := users_mem.mp hv
    exact users_mem.mpr ⟨kc, hkc, hdx kc hkc hm, hv'⟩

/-- a type that may be a parameter at stage `j`: no constructor, a singleton, or a request-scoped constructor hoisted
    into a stage before `j` -/
def TyB (lk : Nat → Option CDef) (ba : List (Nat × Nat)) (j t : Nat) : Prop :=
  ∀ d, lk t = some d → d.life ≠ .transient ∧ (d.life = .request → ∃ b, (d.uid, b) ∈ ba ∧ b < j)

theorem tyB_mono {lk : Nat → Option CDef} {ba : List (Nat × Nat)} {j j' t : Nat} (h : TyB lk ba j t) (hle : j ≤ j') :
    TyB lk ba j' t :=
  fun d hd =>
    ⟨(h d hd).1, fun hr =>
      ((h d hd).2 hr).imp fun _ hb => ⟨hb.1, Nat.lt_of_lt_of_le hb.2 hle⟩⟩

/-- what holds of the accumulator with which the walk arrives at stage `a`: the types of the state, and the fields of
    the `Next` state of stage `a` -/
def Pre (lk : Nat → Option CDef) (ba : List (Nat × Nat)) (a : Nat) (acc : Acc) : Prop :=
  (∀ p ∈ acc.state, TyB lk ba a p.1) ∧ ∀ flds, acc.next = some flds → ∀ f ∈ flds, TyB lk ba (a + 1) f.1

theorem mem_fields {ps : List (Nat × Mode)} {p : Nat × Mode} (h : p ∈ fields ps) : ∃ m, (p.1, m) ∈ ps := by
  simp only [fields, List.mem_map, mem_dedupNat] at h
  obtain ⟨_, ⟨q, hq, rfl⟩, rfl⟩ := h
  exact ⟨q.2, hq⟩

theorem prebuilt_iff {ba : List (Nat × Nat)} {k u : Nat} :
    ((ba.filter (fun b => b.2 < k)).map (·.1)).contains u = true ↔ ∃ b, (u, b) ∈ ba ∧ b < k := by
  simp only [List.contains_iff_mem, List.mem_map, List.mem_filter, decide_eq_true_eq]
  constructor
  · rintro ⟨⟨u', b⟩, ⟨hmem, hlt⟩, rfl⟩
    exact ⟨b, hmem, hlt⟩
  · rintro ⟨b, hmem, hlt⟩
    exact ⟨(u, b), ⟨hmem, hlt⟩, rfl⟩

theorem mkPlan_params {env : Env} {lk : Nat → Option CDef} {rank : Nat → Nat} {tyOf : Nat → Option Nat}
    (w : World env lk rank tyOf) (ba : List (Nat × Nat)) (k : Nat) (next : Option (List (Nat × Mode))) (c : Comp)
    (hlk : env.get c.scope = lk) : ∀ p ∈ (mkPlan env ba k next c).cl.paramTypes, TyB lk ba k p.1 := by
  intro p hp d hd
  obtain ⟨m, hm⟩ := mem_fields hp
  rw [mkPlan, hlk] at hm
  obtain ⟨h1, h2⟩ := closure_params lk _ .request rank w.deep env.fuel w.fuel _ _ hm d hd
  exact ⟨h1, fun hr => prebuilt_iff.mp (h2 hr)⟩

theorem stepStage_pre {env : Env} {lk : Nat → Option CDef} {rank : Nat → Nat} {tyOf : Nat → Option Nat}
    (w : World env lk rank tyOf) (ba : List (Nat × Nat)) (s : StageC) (hs : ∀ c ∈ s.order, env.get c.scope = lk)
    (a : Nat) (acc : Acc) (hpre : Pre lk ba (a + 1) acc) : Pre lk ba a (stepStage env ba tyOf (a + 1) acc s) := by
  have hstate : ∀ p ∈ (s.order.reverse.foldl (stepComp env ba (a + 1)) acc).state,
      TyB lk ba (a + 1) p.1 := by
    intro p hp
    rw [(foldl_stepComp env ba (a + 1) _ acc).2.2, List.mem_append, List.mem_flatMap] at hp
    rcases hp with hp | ⟨c, hc, hp⟩
    · exact hpre.1 p hp
    · exact mkPlan_params w ba _ _ c (hs c (List.mem_reverse.mp hc)) p hp
  simp only [stepStage, Nat.add_one_ne_zero, beq_iff_eq, if_false, Nat.add_sub_cancel]
  refine ⟨fun p hp d hd => ?_, fun flds hf f hf' => ?_⟩
  · obtain ⟨hp1, hp2⟩ := List.mem_filter.mp hp
    obtain ⟨h1, h2⟩ := hstate p hp1 d hd
    refine ⟨h1, fun hr => ?_⟩
    obtain ⟨b, hb, hlt⟩ := h2 hr
    refine ⟨b, hb, Nat.lt_of_le_of_ne (Nat.le_of_lt_succ hlt) fun hba => ?_⟩
    -- if it were hoisted into stage `a` its type would have been removed
    subst hba
    have : p.1 ∈ (ba.filter (fun x => x.2 == b)).filterMap (fun x => tyOf x.1) :=
      List.mem_filterMap.mpr ⟨(d.uid, b), List.mem_filter.mpr ⟨hb, by simp⟩, w.ty _ _ hd⟩
    simp [this] at hp2
  · cases hf
    obtain ⟨m, hm⟩ := mem_fields hf'
    exact hstate (f.1, m) hm

/-- a node of the request-scoped constructor `n.ctor` in the closure of component `c` of stage `k`: the constructor is
    not prebuilt there, and it is reached from `c`'s own inputs, or `c` is the wrapping middleware of the very stage
    the constructor is hoisted into (it fills a field of the `Next` state). -/
theorem node_where {env : Env} {lk : Nat → Option CDef} {rank : Nat → Nat} {tyOf : Nat → Option Nat}
    (w : World env lk rank tyOf) {l : List StageC} (hu : UniformStages env lk l) {k : Nat} {c : Comp}
    (hkc : (k, c) ∈ allComps 0 l) {acc : Acc} (hpre : Pre lk (builtAt (usersFrom env 0 l)) k acc) {n : Node}
    (hn : n ∈ (mkPlan env (builtAt (usersFrom env 0 l)) k acc.next c).cl.nodes) (hlife : n.ctor.life = .request) :
    (¬ ∃ b, (n.ctor.uid, b) ∈ builtAt (usersFrom env 0 l) ∧ b < k) ∧
    ((∃ jm ∈ c.ins, Reach lk [] jm.1 n.ctor) ∨
      (c.isWrapping = true ∧ (n.ctor.uid, k) ∈ builtAt (usersFrom env 0 l))) := by
  rw [mkPlan, hu.get hkc] at hn
  obtain ⟨jm, hjm, hr⟩ := closure_sound lk _ env.fuel _ n hn hlife
  -- what `closure_sound` reaches is not prebuilt
  have hnot : ¬ ∃ b, (n.ctor.uid, b) ∈ builtAt (usersFrom env 0 l) ∧ b < k := by
    intro h
    have hnp := (reach_target hr).2.1
    rw [prebuilt_iff.mpr h] at hnp
    cases hnp
  refine ⟨hnot, ?_⟩
  rcases List.mem_append.mp hjm with hjm | hjm
  · exact Or.inl ⟨jm, hjm, reach_mono hr⟩
  · -- `jm` is a field of the `Next` state: `c` wraps
    have hw : c.isWrapping = true := Decidable.byContradiction fun hw => by
      rw [if_neg hw] at hjm
      cases hjm
    rw [if_pos hw] at hjm
    refine Or.inr ⟨hw, ?_⟩
    cases hnx : acc.next with
    | none =>
      rw [hnx] at hjm
      cases hjm
    | some flds =>
      rw [hnx] at hjm
      have htb := hpre.2 flds hnx jm hjm
      -- hoisted before stage `k + 1` but not before stage `k`: into stage `k`
      have at_k : ∀ u b, (u, b) ∈ builtAt (usersFrom env 0 l) → b < k + 1 →
          (¬ ∃ b', (u, b') ∈ builtAt (usersFrom env 0 l) ∧ b' < k) →
          (u, k) ∈ builtAt (usersFrom env 0 l) := by
        intro u b hb hlt hno
        rcases Nat.lt_or_ge b k with h | h
        · exact absurd ⟨b, hb, h⟩ hno
        · rwa [show k = b by omega]
      cases hr with
      | here hl _ _ =>
        obtain ⟨b, hb, hlt⟩ := (htb _ hl).2 hlife
        exact at_k _ b hb hlt hnot
      | step hl ho hjm' hr' =>
        -- through a constructor hoisted into stage `k`: what it depends on is hoisted, not later
        obtain ⟨hdr, hdnp⟩ := ho.resolve_left (htb _ hl).1
        obtain ⟨b, hb, hlt⟩ := (htb _ hl).2 hdr
        have hbk := at_k _ b hb hlt fun h => by
          rw [prebuilt_iff.mpr h] at hdnp
          cases hdnp
        obtain ⟨b', hb', hle⟩ := hoisted_dep w hu hl hjm' (reach_mono hr') hbk
        exact at_k _ b' hb' (by omega) hnot

/-- where the nodes of the request-scoped constructor `x` may be: if `x` is hoisted, in the closure of the wrapping
    middleware of the stage it is hoisted into; if not, in the closure of a component that uses it -/
def Home (env : Env) (l : List StageC) (x : Nat) (kc : Nat × Comp) : Prop :=
  ((x, kc.1) ∈ builtAt (usersFrom env 0 l) ∧ kc.2.isWrapping = true) ∨
  ((¬ ∃ b, (x, b) ∈ builtAt (usersFrom env 0 l)) ∧ x ∈ (firstPass env kc.2).rs)

theorem node_home {env : Env} {lk : Nat → Option CDef} {rank : Nat → Nat} {tyOf : Nat → Option Nat}
    (w : World env lk rank tyOf) {l : List StageC} (hu : UniformStages env lk l) (hok : StagesOk l) {k : Nat}
    {c : Comp} (hkc : (k, c) ∈ allComps 0 l) {acc : Acc} (hpre : Pre lk (builtAt (usersFrom env 0 l)) k acc) {x : Nat}
    (hx : x ∈ (mkPlan env (builtAt (usersFrom env 0 l)) k acc.next c).cl.rs) : Home env l x (k, c) := by
  obtain ⟨n, hn, hlife, rfl⟩ := mem_rs.mp hx
  obtain ⟨hnot, ⟨jm, hjm, hr⟩ | ⟨hw, hb⟩⟩ := node_where w hu hkc hpre hn hlife
  · have hmem := firstPass_complete w (hu.get hkc) hjm hr
    by_cases hH : ∃ b, (n.ctor.uid, b) ∈ builtAt (usersFrom env 0 l)
    · obtain ⟨b, hb⟩ := hH
      have hle : b ≤ buildIn k c := builtAt_le hb (users_mem.mpr ⟨_, hkc, hmem, rfl⟩)
      have hge : ¬ b < k := fun hlt => hnot ⟨b, hb, hlt⟩
      -- `b ≤ k - 1` is impossible: stage 0 holds wrapping middlewares only
      have hw : c.isWrapping = true := Decidable.byContradiction fun hw => by
        rw [buildIn, if_neg hw] at hle
        exact hw (hok.first c ((show k = 0 by omega) ▸ hkc))
      rw [buildIn, if_pos hw] at hle
      exact Or.inl ⟨(show b = k by omega) ▸ hb, hw⟩
    · exact Or.inr ⟨hH, hmem⟩
  · exact Or.inl ⟨hb, hw⟩

theorem home_unique {env : Env} {l : List StageC} (hok : StagesOk l) {x : Nat} {kc1 kc2 : Nat × Comp}
    (h1 : kc1 ∈ allComps 0 l) (h2 : kc2 ∈ allComps 0 l) (p1 : Home env l x kc1) (p2 : Home env l x kc2) :
    kc1 = kc2 := by
  obtain ⟨k1, c1⟩ := kc1
  obtain ⟨k2, c2⟩ := kc2
  rcases p1 with ⟨hb1, hw1⟩ | ⟨hn1, hm1⟩
  · rcases p2 with ⟨hb2, hw2⟩ | ⟨hn2, _⟩
    · -- both: the wrapping middleware of the stage `x` is hoisted into
      cases (builtAt_mem.mp hb1).2.trans (builtAt_mem.mp hb2).2.symm
      rw [wrapping_unique hok h1 h2 hw1 hw2]
    · exact absurd ⟨_, hb1⟩ hn2
  · rcases p2 with ⟨hb2, _⟩ | ⟨_, hm2⟩
    · exact absurd ⟨_, hb2⟩ hn1
    · -- both are users of a constructor that is not hoisted: it has one user entry only
      have hle : (minesOf (usersFrom env 0 l) x).length ≤ 1 :=
        Nat.le_of_not_lt fun hlt => hn1 ⟨_, builtAt_mem.mpr ⟨hlt, rfl⟩⟩
      rw [users_count] at hle
      have p1 : 0 < (firstPass env c1).rs.count x := List.count_pos_iff.mpr hm1
      have p2 : 0 < (firstPass env c2).rs.count x := List.count_pos_iff.mpr hm2
      exact eq_of_sum_le_one _ _ hle _ h1 _ h2 p1 p2

/-- in a uniform pipeline every request-scoped node sits at the home of its constructor -/
theorem plan_home {env : Env} {lk : Nat → Option CDef} {rank : Nat → Nat} {tyOf : Nat → Option Nat}
    (w : World env lk rank tyOf) (chain : List Comp) (h : Comp) (hu : UniformStages env lk (group chain [] [] h))
    (hok : StagesOk (group chain [] [] h)) :
    ∀ cp ∈ (plan env tyOf chain h).comps, ∀ x ∈ cp.cl.rs, Home env (group chain [] [] h) x (keyOf cp) := by
  intro cp hcp x hx
  have hkey := (plan_mem env tyOf chain h cp hcp).1
  rw [plan_comps_eq] at hcp
  obtain ⟨acc, hpre, hmk⟩ := walkDown_mem env _ tyOf (Pre lk _)
    (fun _ => ⟨fun _ hp => (nomatch hp), fun _ hf => (nomatch hf)⟩) _ 0
    (fun s hs => stepStage_pre w _ s (hu s hs)) cp hcp
  exact node_home w hu hok hkey hpre (hmk ▸ hx)

/-- constructors kept in a table — ids pairwise different, inputs of smaller types than the output (no cycles), all
    types below the recursion depth — make a `World` -/
theorem world_of_table (tab : List CDef) (fuel : Nat) (hpos : 0 < fuel) (hn : (tab.map (·.uid)).Nodup)
    (hdec : ∀ c ∈ tab, ∀ jm ∈ c.ins, jm.1 < c.ty) (hb : ∀ c ∈ tab, c.ty < fuel) :
    World { get := fun _ t => tab.find? (fun d => d.ty == t), fuel := fuel } (fun t => tab.find? (fun d => d.ty == t))
      (fun t => if t < fuel then t else 0) (fun u => (tab.find? (fun d => d.uid == u)).map (·.ty)) := by
  have hfind : ∀ t d, tab.find? (fun d => d.ty == t) = some d → d ∈ tab ∧ d.ty = t :=
    fun t d h => ⟨List.mem_of_find?_eq_some h, by simpa using List.find?_some h⟩
  refine ⟨uidInj_of_table tab hn, ?_, ?_, ?_⟩
  · intro t c jm hl hjm
    obtain ⟨hc, hty⟩ := hfind t c hl
    have h1 := hdec c hc jm hjm
    have h2 := hb c hc
    simp only
    rw [if_pos (by omega), if_pos (by omega)]
    omega
  · intro t
    simp only
    split <;> omega
  · intro t d hl
    obtain ⟨hd, hty⟩ := hfind t d hl
    -- the first constructor with that id is `d` itself
    cases hf : tab.find? (fun d' => d'.uid == d.uid) with
    | none => simpa using List.find?_eq_none.mp hf d hd
    | some d' =>
      have hd' : d' = d := eq_of_nodup_map hn d' (List.mem_of_find?_eq_some hf) d hd
        (by simpa using List.find?_some hf)
      simp [hd', hty]

end Pxv.Life
