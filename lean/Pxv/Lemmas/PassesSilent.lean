import Pxv.Lemmas.Complex
import Pxv.Lemmas.MoveWhileBorrowed
/-! How the hypotheses under which the passes leave a call graph alone imply each other, and what they come to on graphs
without captures (`inClassEdges`). -/
namespace Pxv.CG
open Graph

/-- what `move_while_borrowed` leaves alone, `complex_borrow_check` leaves alone. -/
theorem uncontended_of_mwbQuiet {g : Graph} (h : mwbQuiet g = true) : uncontended g = true := by
  unfold uncontended
  unfold mwbQuiet at h
  rw [List.all_eq_true] at h ⊢
  intro e he
  have h1 := h e he
  simp only [Bool.and_eq_true, Bool.or_eq_true] at h1 ⊢
  refine h1.2.imp_right fun h2 => ?_
  rw [List.all_eq_true] at h2 ⊢
  intro e' he'
  have := h2 e' he'
  simp only [Bool.and_eq_true, Bool.or_eq_true] at this ⊢
  exact ⟨this.1, Or.inr this.2⟩

theorem captured_captureFree {g : Graph} (h : captureFree g = true) : captured g = [] := by
  unfold captured
  refine List.foldlRecOn (motive := (· = [])) _ _ rfl fun cap hcap n _ => ?_
  unfold capturedNode
  simp only [(node_captureFree h n).1, (node_captureFree h n).2, List.contains_nil,
    Bool.false_eq_true, if_false]
  rw [List.foldlRecOn (motive := (· = [])) _ _ rfl fun _ hc _ _ => hc]
  exact hcap

/-- the edge-level reading of C02's ownership clause on a graph without captures: no `&mut` edge, and no non-Copy value is
    both taken by value and borrowed -/
def inClassEdges (g : Graph) : Bool :=
  g.edges.all (fun e => e.kind != .excl && (e.kind != .move || (g.node e.src).copy ||
    g.edges.all (fun e' => !(e'.src == e.src && (e'.kind == .shared || e'.kind == .excl)))))

theorem mwbQuiet_of_inClassEdges {g : Graph} (hcf : captureFree g = true) (h : inClassEdges g = true) :
    mwbQuiet g = true := by
  unfold mwbQuiet
  rw [captured_captureFree hcf]
  unfold inClassEdges at h
  rw [List.all_eq_true] at h ⊢
  intro e he
  have h1 := h e he
  simp only [Bool.and_eq_true, Bool.or_eq_true] at h1 ⊢
  refine ⟨h1.1, ?_⟩
  rcases h1.2 with (h2 | h2) | h2
  · exact Or.inl (Or.inl h2)
  · exact Or.inl (Or.inr h2)
  · right
    rw [List.all_eq_true] at h2 ⊢
    intro e' he'
    have := h2 e' he'
    simp only [lookup, List.find?_nil, List.contains_nil, Bool.not_false, Bool.and_true]
    exact this

theorem noConflict_of_inClassEdges {g : Graph} (hcf : captureFree g = true) (h : inClassEdges g = true) :
    noConflict g = true := by
  unfold noConflict
  rw [List.all_eq_true]
  intro d _
  rw [allBorrowers_of_captureFree hcf]
  simp only [Bool.or_eq_true, List.isEmpty_iff]
  by_cases hc : g.consumers d = []
  · exact Or.inl (Or.inr hc)
  · -- some move edge leaves `d`
    obtain ⟨c, hc⟩ := List.exists_mem_of_ne_nil _ hc
    obtain ⟨e, he, rfl, _, hk⟩ := mem_consumers.1 hc
    have h1 := List.all_eq_true.1 h e he
    simp only [Bool.and_eq_true, Bool.or_eq_true, hk, bne_self_eq_false, Bool.false_eq_true,
      false_or] at h1
    refine h1.2.elim (fun h2 => Or.inl (Or.inl h2)) fun h2 => Or.inr ?_
    rw [List.all_eq_true] at h2
    simp only [borrowers, outEdges, List.map_eq_nil_iff, List.filter_eq_nil_iff, List.mem_filter]
    intro e' he'
    have := h2 e' he'.1
    simpa [he'.2] using this

end Pxv.CG
