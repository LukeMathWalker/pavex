import Pxv.Model.Bindings
/-! `get_expr_for_type` and the stage-level loop: every expression it hands out type-checks against the FINAL bindings. -/
namespace Pxv.Bind

/-- `bs'` declares the same parameters as `bs`, possibly with more of them `mut` -/
def Le : List Binding → List Binding → Prop
  | [], [] => True
  | b :: bs, b' :: bs' => b'.ident = b.ident ∧ b'.ty = b.ty ∧ (b.mutable = true → b'.mutable = true) ∧ Le bs bs'
  | _, _ => False

theorem Le.refl : ∀ (bs : List Binding), Le bs bs
  | [] => trivial
  | _ :: bs => ⟨rfl, rfl, id, Le.refl bs⟩

theorem Le.trans : ∀ {a b c : List Binding}, Le a b → Le b c → Le a c
  | [], [], [], _, _ => trivial
  | _ :: _, _ :: _, _ :: _, ⟨hi1, hty1, hm1, hrest1⟩, ⟨hi2, hty2, hm2, hrest2⟩ =>
    ⟨hi2.trans hi1, hty2.trans hty1, fun h => hm2 (hm1 h), Le.trans hrest1 hrest2⟩
  | [], [], _ :: _, _, h2 => h2.elim
  | [], _ :: _, _, h1, _ => h1.elim
  | _ :: _, [], _, h1, _ => h1.elim
  | _ :: _, _ :: _, [], _, h2 => h2.elim

theorem Le.mem : ∀ {bs bs' : List Binding}, Le bs bs' → ∀ {b}, b ∈ bs →
    ∃ b' ∈ bs', b'.ident = b.ident ∧ b'.ty = b.ty ∧ (b.mutable = true → b'.mutable = true)
  | _ :: _, b' :: _, ⟨hi, hty, hm, _⟩, _, .head _ => ⟨b', .head _, hi, hty, hm⟩
  | _ :: _, _ :: _, ⟨_, _, _, hrest⟩, _, .tail _ hb =>
    let ⟨b', hb', hp⟩ := Le.mem hrest hb
    ⟨b', .tail _ hb', hp⟩
  | _ :: _, [], h, _, _ => h.elim

theorem le_markMut (t : Ty) : ∀ (bs : List Binding), Le bs (markMut t bs)
  | [] => trivial
  | b :: bs => by
    unfold markMut
    split
    · exact ⟨rfl, rfl, fun _ => rfl, Le.refl bs⟩
    · exact ⟨rfl, rfl, id, le_markMut t bs⟩

theorem wellTyped_mono {bs bs' : List Binding} (h : Le bs bs') (e : Expr) (w : Ty) (ht : wellTyped bs e w = true) :
    wellTyped bs' e w = true := by
  -- the parameter `b` that types `e` has a counterpart `b'` in `bs'`: same name, same type, `mut` if `b` is
  cases e with
  | name i =>
    simp only [wellTyped, List.any_eq_true] at ht ⊢
    obtain ⟨b, hb, hp⟩ := ht
    obtain ⟨b', hb', hi, hty, -⟩ := h.mem hb
    exact ⟨b', hb', by rwa [hi, hty]⟩
  | borrow m i =>
    simp only [wellTyped, List.any_eq_true] at ht ⊢
    obtain ⟨b, hb, hp⟩ := ht
    obtain ⟨b', hb', hi, hty, hm⟩ := h.mem hb
    simp only [Bool.and_eq_true, decide_eq_true_eq, Bool.or_eq_true, Bool.not_eq_true'] at hp ⊢
    obtain ⟨⟨hident, hwant⟩, hmut⟩ := hp
    exact ⟨b', hb', ⟨hi ▸ hident, hty ▸ hwant⟩, hmut.imp_right hm⟩

theorem mem_markMut_of_find {t : Ty} : ∀ {bs : List Binding} {b : Binding}, bs.find? (fun b => b.ty = t) = some b →
    { b with mutable := true } ∈ markMut t bs
  | [], _, h => by simp at h
  | c :: cs, b, h => by
    unfold markMut
    by_cases hc : c.ty = t
    · simp only [List.find?_cons, hc, decide_true] at h
      cases h
      simp [hc]
    · simp only [List.find?_cons, hc, decide_false] at h
      simp only [hc, if_false]
      exact List.mem_cons_of_mem _ (mem_markMut_of_find h)

/-- the outcomes of a lookup: a parameter passed by name (its type is the wanted one, or `&mut T` where `&T` is wanted), or a
    borrow of the first parameter of the inner type, marked `mut` for a `&mut` borrow. -/
theorem getExpr_cases {bs bs' : List Binding} {w : Ty} {e : Expr} (h : getExpr bs w = some (e, bs')) :
    (∃ b ∈ bs, (b.ty = w ∨ ∃ inner, w = .ref false inner ∧ b.ty = .ref true inner) ∧ e = .name b.ident ∧ bs' = bs) ∨
    ∃ m inner b, w = .ref m inner ∧ bs.find? (fun b => b.ty = inner) = some b ∧ e = .borrow m b.ident ∧
      bs' = if m then markMut inner bs else bs := by
  unfold getExpr at h
  split at h
  · rename_i b hf
    cases h
    have hty : b.ty = w := by simpa using List.find?_some hf
    exact Or.inl ⟨b, List.mem_of_find?_eq_some hf, Or.inl hty, rfl, rfl⟩
  · split at h
    · cases h
    · rename_i m inner _
      split at h
      · rename_i b hf
        cases h
        exact Or.inr ⟨m, inner, b, rfl, hf, rfl, rfl⟩
      · split at h
        · cases h
        · rename_i hm
          split at h
          · rename_i b hf
            cases h
            have hmf : m = false := Bool.eq_false_iff.mpr hm
            have hty : b.ty = .ref true inner := by simpa using List.find?_some hf
            exact Or.inl
              ⟨b, List.mem_of_find?_eq_some hf, Or.inr ⟨inner, by rw [hmf], hty⟩, rfl, rfl⟩
          · cases h

theorem getExpr_le {bs bs' : List Binding} {w : Ty} {e : Expr} (h : getExpr bs w = some (e, bs')) : Le bs bs' := by
  rcases getExpr_cases h with ⟨_, _, _, _, rfl⟩ | ⟨m, _, _, _, _, _, rfl⟩
  · exact Le.refl _
  · cases m with
    | false => exact Le.refl _
    | true => exact le_markMut _ _

/-- **one lookup**: the expression `get_expr_for_type` returns may be passed where the wanted type is expected, given the
    bindings as the call leaves them: in particular a `&mut ident` comes with `mut ident`. -/
theorem getExpr_typed {bs bs' : List Binding} {w : Ty} {e : Expr} (h : getExpr bs w = some (e, bs')) :
    wellTyped bs' e w = true := by
  rcases getExpr_cases h with ⟨b, hb, hty, rfl, rfl⟩ | ⟨m, inner, b, rfl, hf, rfl, rfl⟩
  · -- passed by name: `b` itself is the witness
    simp only [wellTyped, List.any_eq_true]
    refine ⟨b, hb, ?_⟩
    rcases hty with rfl | ⟨inner, rfl, ht⟩
    · simp
    · simp [ht]
  · -- borrowed: `b` for `&`, and for `&mut` the copy of `b` that `markMut` has marked
    simp only [wellTyped, List.any_eq_true]
    have ht : b.ty = inner := by simpa using List.find?_some hf
    cases m with
    | false => exact ⟨b, List.mem_of_find?_eq_some hf, by simp [ht]⟩
    | true => exact ⟨{ b with mutable := true }, mem_markMut_of_find hf, by simp [ht]⟩

def allTyped (bs : List Binding) : List Expr → List Ty → Prop
  | [], [] => True
  | e :: es, t :: ts => wellTyped bs e t = true ∧ allTyped bs es ts
  | _, _ => False

theorem allTyped_mono {bs bs' : List Binding} (h : Le bs bs') : ∀ (es : List Expr) (ts : List Ty),
    allTyped bs es ts → allTyped bs' es ts
  | [], [], _ => trivial
  | e :: es, t :: ts, ht => ⟨wellTyped_mono h e t ht.1, allTyped_mono h es ts ht.2⟩
  | [], _ :: _, ht => ht.elim
  | _ :: _, [], ht => ht.elim

theorem resolveArgs_typed : ∀ (ts : List Ty) (bs bs' : List Binding) (es : List Expr),
    resolveArgs bs ts = some (es, bs') → Le bs bs' ∧ allTyped bs' es ts := by
  intro ts
  induction ts with
  | nil =>
    intro bs bs' es h
    cases h
    exact ⟨Le.refl _, trivial⟩
  | cons t ts ih =>
    intro bs bs' es h
    unfold resolveArgs at h
    split at h
    · cases h
    · rename_i e bs1 hg
      split at h
      · cases h
      · rename_i hr
        cases h
        obtain ⟨hle, hty⟩ := ih _ _ _ hr
        exact ⟨(getExpr_le hg).trans hle, wellTyped_mono hle e t (getExpr_typed hg), hty⟩

theorem le_append_singleton : ∀ {a a' : List Binding} {x x' : Binding}, Le a a' → Le [x] [x'] → Le (a ++ [x]) (a' ++ [x'])
  | [], [], _, _, _, hx => hx
  | _ :: _, _ :: _, _, _, ⟨hi, hty, hm, hrest⟩, hx => ⟨hi, hty, hm, le_append_singleton hrest hx⟩
  | [], _ :: _, _, _, h, _ => h.elim
  | _ :: _, [], _, _, h, _ => h.elim

theorem le_snoc_inv : ∀ {a c : List Binding} {x : Binding}, Le (a ++ [x]) c →
    ∃ a' y, c = a' ++ [y] ∧ Le a a' ∧ Le [x] [y]
  | [], [y], _, h => ⟨[], y, rfl, trivial, h⟩
  | [], [], _, h => h.elim
  | [], _ :: _ :: _, _, ⟨_, _, _, hrest⟩ => hrest.elim
  | _ :: _, [], _, h => h.elim
  | _ :: _, c0 :: _, _, ⟨hi, hty, hm, hrest⟩ =>
    let ⟨a', y, hc, hle, hx⟩ := le_snoc_inv hrest
    ⟨c0 :: a', y, by rw [hc]; rfl, ⟨hi, hty, hm, hle⟩, hx⟩

/-- every invocation of the stage is well typed against the parameters as the signature finally declares them; the
    temporary `response` binding of a post-processor is a `let`, not a parameter: nothing is claimed about `&mut response` -/
def stageTyped (resp : Binding) (bsF : List Binding) : List (Bool × List Ty) → List (List Expr) → Prop
  | [], [] => True
  | (post, wants) :: rest, es :: ess =>
    allTyped (if post then bsF ++ [{ resp with mutable := true }] else bsF) es wants ∧ stageTyped resp bsF rest ess
  | _, _ => False

theorem resolveStage_typed (resp : Binding) : ∀ (calls : List (Bool × List Ty)) (bs bsF : List Binding) (ess : List (List Expr)),
    resolveStage resp bs calls = some (ess, bsF) → Le bs bsF ∧ stageTyped resp bsF calls ess := by
  intro calls
  induction calls with
  | nil =>
    intro bs bsF ess h
    cases h
    exact ⟨Le.refl _, trivial⟩
  | cons c rest ih =>
    intro bs bsF ess h
    obtain ⟨post, wants⟩ := c
    unfold resolveStage at h
    split at h
    · cases h
    · rename_i hr
      split at h
      · cases h
      · rename_i hs
        cases h
        obtain ⟨hle1, hty1⟩ := resolveArgs_typed wants _ _ _ hr
        cases post with
        | false =>
          obtain ⟨hle2, hty2⟩ := ih _ _ _ hs
          exact ⟨hle1.trans hle2, allTyped_mono hle2 _ _ hty1, hty2⟩
        | true =>
          obtain ⟨a', y, rfl, hleD, hi, ht, -⟩ := le_snoc_inv hle1
          simp only [if_true, List.dropLast_concat] at hs
          obtain ⟨hle2, hty2⟩ := ih _ _ _ hs
          refine ⟨hleD.trans hle2, allTyped_mono (le_append_singleton hle2 ?_) _ _ hty1, hty2⟩
          exact ⟨hi.symm, ht.symm, fun _ => rfl, trivial⟩

end Pxv.Bind
