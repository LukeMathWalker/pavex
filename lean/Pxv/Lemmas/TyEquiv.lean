import Pxv.Lemmas.TyCanon
/-! `is_equivalent_to` against `canonicalize`: the state-passing comparison succeeds exactly when
the two types have the same canonical form up to lifetimes; the laws of equivalence are read off
that. Conversely, equivalent types that agree on which lifetimes are `'static` have the same
canonical form. -/
namespace Pxv.Ty

mutual
/-- Forgets every lifetime and nothing else. -/
def noLt : Ty → Ty
  | .path al p i bs as => .path al p i bs (noLtArgs as)
  | .ref m _ t => .ref m .elided (noLt t)
  | .tuple es => .tuple (noLtTys es)
  | .scalar s => .scalar s
  | .slice e => .slice (noLt e)
  | .array e n => .array (noLt e) n
  | .rawPtr m t => .rawPtr m (noLt t)
  | .fnPtr ins out abi u => .fnPtr (noLtIns ins) (noLtO out) abi u
  | .generic x => .generic x
def noLtArgs : GArgs → GArgs
  | .nil => .nil
  | .ty t r => .ty (noLt t) (noLtArgs r)
  | .lt _ r => .lt .inferred (noLtArgs r)
  | .const v r => .const v (noLtArgs r)
def noLtTys : Tys → Tys
  | .nil => .nil
  | .cons t r => .cons (noLt t) (noLtTys r)
def noLtIns : FnIns → FnIns
  | .nil => .nil
  | .cons n t r => .cons n (noLt t) (noLtIns r)
def noLtO : OTy → OTy
  | .none => .none
  | .some t => .some (noLt t)
end

/-- Two comparisons in a row, the second starting from the state the first ends in. -/
theorem seq_iff {o : Option (List String × List String)}
    {f : List String × List String → Option (List String × List String)} {c d : Prop}
    {x y s' : List String × List String} :
    (∀ s, o = some s ↔ c ∧ x = s) → (∀ s, f x = some s ↔ d ∧ y = s) →
    ((match o with | some s => f s | none => none) = some s' ↔ (c ∧ d) ∧ y = s') := by
  intro h1 h2
  cases o with
  | none =>
    -- the first comparison failed, so `c` is false: otherwise `h1` would give `none = some x`
    refine ⟨nofun, fun h => ?_⟩
    exact nomatch (h1 x).2 ⟨h.1.1, rfl⟩
  | some s =>
    -- the first comparison ended in `s`, so `c` holds and `s` is `x`: the second decides
    obtain ⟨hc, rfl⟩ := (h1 s).1 rfl
    simp only [hc, true_and]
    exact h2 s'

/- The comparison numbers the generic parameters of both sides in order of first occurrence and
   compares the numbers; canonicalisation names them by the same numbers. The lifetime counters
   `n`, `m` play no role.
   In each case `cases b` leaves the shape of `a`: against any other the comparison answers `none`
   and the canonical forms begin differently, so both sides are false. -/
mutual
theorem equivGo_iff :
    ∀ (a b : Ty) (n m : Nat) (g1 g2 : List String) (s' : List String × List String),
    equivGo a b (g1, g2) = some s' ↔
      noLt (canonGo a ⟨n, g1⟩).1 = noLt (canonGo b ⟨m, g2⟩).1 ∧
        ((canonGo a ⟨n, g1⟩).2.seen, (canonGo b ⟨m, g2⟩).2.seen) = s'
  | .path al p i bs as, b, n, m, g1, g2, s' => by
      unfold equivGo
      cases b <;> simp only [canonGo, noLt, reduceCtorEq, false_and, Ty.path.injEq,
        Option.ite_none_right_eq_some, equivArgs_iff as _ n m g1 g2, and_assoc]
  | .ref _ _ t, b, n, m, g1, g2, s' => by
      unfold equivGo
      cases b <;> simp only [canonGo, noLt, reduceCtorEq, false_and, Ty.ref.injEq, true_and,
        Option.ite_none_right_eq_some, and_assoc]
      exact and_congr_right fun _ => equivGo_iff t _ _ _ _ _ _
  | .tuple es, b, n, m, g1, g2, s' => by
      unfold equivGo
      cases b <;> simp only [canonGo, noLt, reduceCtorEq, false_and, Ty.tuple.injEq,
        equivTys_iff es _ n m g1 g2]
  | .scalar x, b, n, m, g1, g2, s' => by
      unfold equivGo
      cases b <;> simp only [canonGo, noLt, reduceCtorEq, false_and, Ty.scalar.injEq,
        Option.ite_none_right_eq_some, Option.some.injEq]
  | .slice e, b, n, m, g1, g2, s' => by
      unfold equivGo
      cases b <;> simp only [canonGo, noLt, reduceCtorEq, false_and, Ty.slice.injEq,
        equivGo_iff e _ n m g1 g2]
  | .array e k, b, n, m, g1, g2, s' => by
      unfold equivGo
      cases b <;> simp only [canonGo, noLt, reduceCtorEq, false_and, Ty.array.injEq,
        Option.ite_none_right_eq_some, equivGo_iff e _ n m g1 g2, and_assoc]
      exact and_left_comm
  | .rawPtr _ t, b, n, m, g1, g2, s' => by
      unfold equivGo
      cases b <;> simp only [canonGo, noLt, reduceCtorEq, false_and, Ty.rawPtr.injEq,
        Option.ite_none_right_eq_some, equivGo_iff t _ n m g1 g2, and_assoc]
  | .fnPtr ins out abi u, b, n, m, g1, g2, s' => by
      unfold equivGo
      cases b <;> simp only [canonGo, noLt, reduceCtorEq, false_and, Ty.fnPtr.injEq,
        Option.ite_none_right_eq_some]
      rename_i abi' u'
      by_cases hp : abi = abi' ∧ u = u'
      · simp only [hp, true_and, and_true]
        exact seq_iff (equivIns_iff ins _ n m g1 g2) (equivO_iff out _ _ _ _ _)
      · simp only [hp, false_and, and_false]
  | .generic x, b, n, m, g1, g2, s' => by
      unfold equivGo
      cases b <;> simp only [canonGo, noLt, reduceCtorEq, false_and, Ty.generic.injEq,
        Option.ite_none_right_eq_some, Option.some.injEq, gname_inj_iff]
termination_by structural a => a
theorem equivArgs_iff :
    ∀ (a b : GArgs) (n m : Nat) (g1 g2 : List String) (s' : List String × List String),
    equivArgs a b (g1, g2) = some s' ↔
      noLtArgs (canonArgs a ⟨n, g1⟩).1 = noLtArgs (canonArgs b ⟨m, g2⟩).1 ∧
        ((canonArgs a ⟨n, g1⟩).2.seen, (canonArgs b ⟨m, g2⟩).2.seen) = s'
  | .nil, b, n, m, g1, g2, s' => by
      unfold equivArgs
      cases b <;>
        simp only [canonArgs, noLtArgs, reduceCtorEq, false_and, true_and, Option.some.injEq]
  | .ty t r, b, n, m, g1, g2, s' => by
      unfold equivArgs
      cases b <;> simp only [canonArgs, noLtArgs, reduceCtorEq, false_and, GArgs.ty.injEq]
      exact seq_iff (equivGo_iff t _ n m g1 g2) (equivArgs_iff r _ _ _ _ _)
  | .lt _ r, b, n, m, g1, g2, s' => by
      unfold equivArgs
      cases b <;> simp only [canonArgs, noLtArgs, reduceCtorEq, false_and, GArgs.lt.injEq, true_and]
      exact equivArgs_iff r _ _ _ _ _ _
  | .const v r, b, n, m, g1, g2, s' => by
      unfold equivArgs
      cases b <;> simp only [canonArgs, noLtArgs, reduceCtorEq, false_and, GArgs.const.injEq,
        Option.ite_none_right_eq_some, equivArgs_iff r _ n m g1 g2, and_assoc]
termination_by structural a => a
theorem equivTys_iff :
    ∀ (a b : Tys) (n m : Nat) (g1 g2 : List String) (s' : List String × List String),
    equivTys a b (g1, g2) = some s' ↔
      noLtTys (canonTys a ⟨n, g1⟩).1 = noLtTys (canonTys b ⟨m, g2⟩).1 ∧
        ((canonTys a ⟨n, g1⟩).2.seen, (canonTys b ⟨m, g2⟩).2.seen) = s'
  | .nil, b, n, m, g1, g2, s' => by
      unfold equivTys
      cases b <;>
        simp only [canonTys, noLtTys, reduceCtorEq, false_and, true_and, Option.some.injEq]
  | .cons t r, b, n, m, g1, g2, s' => by
      unfold equivTys
      cases b <;> simp only [canonTys, noLtTys, reduceCtorEq, false_and, Tys.cons.injEq]
      exact seq_iff (equivGo_iff t _ n m g1 g2) (equivTys_iff r _ _ _ _ _)
termination_by structural a => a
theorem equivIns_iff :
    ∀ (a b : FnIns) (n m : Nat) (g1 g2 : List String) (s' : List String × List String),
    equivIns a b (g1, g2) = some s' ↔
      noLtIns (canonIns a ⟨n, g1⟩).1 = noLtIns (canonIns b ⟨m, g2⟩).1 ∧
        ((canonIns a ⟨n, g1⟩).2.seen, (canonIns b ⟨m, g2⟩).2.seen) = s'
  | .nil, b, n, m, g1, g2, s' => by
      unfold equivIns
      cases b <;>
        simp only [canonIns, noLtIns, reduceCtorEq, false_and, true_and, Option.some.injEq]
  | .cons _ t r, b, n, m, g1, g2, s' => by
      unfold equivIns
      cases b <;> simp only [canonIns, noLtIns, reduceCtorEq, false_and, FnIns.cons.injEq, true_and]
      exact seq_iff (equivGo_iff t _ n m g1 g2) (equivIns_iff r _ _ _ _ _)
termination_by structural a => a
theorem equivO_iff :
    ∀ (a b : OTy) (n m : Nat) (g1 g2 : List String) (s' : List String × List String),
    equivO a b (g1, g2) = some s' ↔
      noLtO (canonO a ⟨n, g1⟩).1 = noLtO (canonO b ⟨m, g2⟩).1 ∧
        ((canonO a ⟨n, g1⟩).2.seen, (canonO b ⟨m, g2⟩).2.seen) = s'
  | .none, b, n, m, g1, g2, s' => by
      unfold equivO
      cases b <;> simp only [canonO, noLtO, reduceCtorEq, false_and, true_and, Option.some.injEq]
  | .some t, b, n, m, g1, g2, s' => by
      unfold equivO
      cases b <;> simp only [canonO, noLtO, reduceCtorEq, false_and, OTy.some.injEq]
      exact equivGo_iff t _ _ _ _ _ _
termination_by structural a => a
end

mutual
theorem skeleton_canon : ∀ (a : Ty) (s : CSt), skeleton (noLt (canonGo a s).1) = skeleton a
  | .path _ _ _ _ as, s => by simp only [canonGo, noLt, skeleton, skeletonArgs_canon as s]
  | .ref _ _ t, s => by simp only [canonGo, noLt, skeleton, skeleton_canon t]
  | .tuple es, s => by simp only [canonGo, noLt, skeleton, skeletonTys_canon es s]
  | .scalar _, s => by simp only [canonGo, noLt, skeleton]
  | .slice e, s => by simp only [canonGo, noLt, skeleton, skeleton_canon e s]
  | .array e _, s => by simp only [canonGo, noLt, skeleton, skeleton_canon e s]
  | .rawPtr _ t, s => by simp only [canonGo, noLt, skeleton, skeleton_canon t s]
  | .fnPtr ins out _ _, s => by
      simp only [canonGo, noLt, skeleton, skeletonIns_canon ins s, skeletonO_canon out]
  | .generic _, s => by simp only [canonGo, noLt, skeleton]
theorem skeletonArgs_canon :
    ∀ (a : GArgs) (s : CSt), skeletonArgs (noLtArgs (canonArgs a s).1) = skeletonArgs a
  | .nil, s => by simp only [canonArgs, noLtArgs, skeletonArgs]
  | .ty t r, s => by
      simp only [canonArgs, noLtArgs, skeletonArgs, skeleton_canon t s, skeletonArgs_canon r]
  | .lt _ r, s => by simp only [canonArgs, noLtArgs, skeletonArgs, skeletonArgs_canon r]
  | .const _ r, s => by simp only [canonArgs, noLtArgs, skeletonArgs, skeletonArgs_canon r s]
theorem skeletonTys_canon :
    ∀ (a : Tys) (s : CSt), skeletonTys (noLtTys (canonTys a s).1) = skeletonTys a
  | .nil, s => by simp only [canonTys, noLtTys, skeletonTys]
  | .cons t r, s => by
      simp only [canonTys, noLtTys, skeletonTys, skeleton_canon t s, skeletonTys_canon r]
theorem skeletonIns_canon :
    ∀ (a : FnIns) (s : CSt), skeletonIns (noLtIns (canonIns a s).1) = skeletonIns a
  | .nil, s => by simp only [canonIns, noLtIns, skeletonIns]
  | .cons _ t r, s => by
      simp only [canonIns, noLtIns, skeletonIns, skeleton_canon t s, skeletonIns_canon r]
theorem skeletonO_canon : ∀ (a : OTy) (s : CSt), skeletonO (noLtO (canonO a s).1) = skeletonO a
  | .none, s => by simp only [canonO, noLtO, skeletonO]
  | .some t, s => by simp only [canonO, noLtO, skeletonO, skeleton_canon t s]
end

/-! What `equivGo_iff` gives for generic arguments, tuple elements, function inputs and outputs; for
`Ty` itself see `isEquivalentTo_eq_some` in `Thm/C17`. -/
theorem equivArgs_refl : ∀ (a : GArgs) (g : List String),
    equivArgs a a (g, g) = some (unassignedArgs a g, unassignedArgs a g) :=
  fun a g => (equivArgs_iff a a 0 0 g g _).2 ⟨rfl, by rw [canonArgs_seen]⟩
theorem equivTys_refl : ∀ (a : Tys) (g : List String),
    equivTys a a (g, g) = some (unassignedTys a g, unassignedTys a g) :=
  fun a g => (equivTys_iff a a 0 0 g g _).2 ⟨rfl, by rw [canonTys_seen]⟩
theorem equivIns_refl : ∀ (a : FnIns) (g : List String),
    equivIns a a (g, g) = some (unassignedIns a g, unassignedIns a g) :=
  fun a g => (equivIns_iff a a 0 0 g g _).2 ⟨rfl, by rw [canonIns_seen]⟩
theorem equivO_refl : ∀ (a : OTy) (g : List String),
    equivO a a (g, g) = some (unassignedO a g, unassignedO a g) :=
  fun a g => (equivO_iff a a 0 0 g g _).2 ⟨rfl, by rw [canonO_seen]⟩

/- The generators' states after a successful comparison are the names met so far, in first-seen
   order — the same walk as `unassigned_generic_type_parameters`. -/
theorem equivArgs_state : ∀ (a b : GArgs) (s s' : List String × List String), equivArgs a b s = some s' →
    s' = (unassignedArgs a s.1, unassignedArgs b s.2) :=
  fun a b s s' h => by
    rw [← ((equivArgs_iff a b 0 0 s.1 s.2 s').1 h).2, canonArgs_seen, canonArgs_seen]
theorem equivTys_state : ∀ (a b : Tys) (s s' : List String × List String), equivTys a b s = some s' →
    s' = (unassignedTys a s.1, unassignedTys b s.2) :=
  fun a b s s' h => by
    rw [← ((equivTys_iff a b 0 0 s.1 s.2 s').1 h).2, canonTys_seen, canonTys_seen]
theorem equivO_state : ∀ (a b : OTy) (s s' : List String × List String), equivO a b s = some s' →
    s' = (unassignedO a s.1, unassignedO b s.2) :=
  fun a b s s' h => by
    rw [← ((equivO_iff a b 0 0 s.1 s.2 s').1 h).2, canonO_seen, canonO_seen]

theorem equivArgs_symm : ∀ (a b : GArgs) (s s' : List String × List String), equivArgs a b s = some s' →
    equivArgs b a (s.2, s.1) = some (s'.2, s'.1) :=
  fun a b s s' h => by
    obtain ⟨e, rfl⟩ := (equivArgs_iff a b 0 0 s.1 s.2 s').1 h
    exact (equivArgs_iff b a 0 0 _ _ _).2 ⟨e.symm, rfl⟩
theorem equivTys_symm : ∀ (a b : Tys) (s s' : List String × List String), equivTys a b s = some s' →
    equivTys b a (s.2, s.1) = some (s'.2, s'.1) :=
  fun a b s s' h => by
    obtain ⟨e, rfl⟩ := (equivTys_iff a b 0 0 s.1 s.2 s').1 h
    exact (equivTys_iff b a 0 0 _ _ _).2 ⟨e.symm, rfl⟩
theorem equivIns_symm : ∀ (a b : FnIns) (s s' : List String × List String), equivIns a b s = some s' →
    equivIns b a (s.2, s.1) = some (s'.2, s'.1) :=
  fun a b s s' h => by
    obtain ⟨e, rfl⟩ := (equivIns_iff a b 0 0 s.1 s.2 s').1 h
    exact (equivIns_iff b a 0 0 _ _ _).2 ⟨e.symm, rfl⟩
theorem equivO_symm : ∀ (a b : OTy) (s s' : List String × List String), equivO a b s = some s' →
    equivO b a (s.2, s.1) = some (s'.2, s'.1) :=
  fun a b s s' h => by
    obtain ⟨e, rfl⟩ := (equivO_iff a b 0 0 s.1 s.2 s').1 h
    exact (equivO_iff b a 0 0 _ _ _).2 ⟨e.symm, rfl⟩

theorem equivArgs_trans : ∀ (a b c : GArgs) (g1 g2 g3 : List String) (s1 s2 : List String × List String),
    equivArgs a b (g1, g2) = some s1 → equivArgs b c (g2, g3) = some s2 →
    equivArgs a c (g1, g3) = some (s1.1, s2.2) :=
  fun a b c g1 g2 g3 s1 s2 h1 h2 => by
    obtain ⟨e1, rfl⟩ := (equivArgs_iff a b 0 0 g1 g2 s1).1 h1
    obtain ⟨e2, rfl⟩ := (equivArgs_iff b c 0 0 g2 g3 s2).1 h2
    exact (equivArgs_iff a c 0 0 g1 g3 _).2 ⟨e1.trans e2, rfl⟩
theorem equivTys_trans : ∀ (a b c : Tys) (g1 g2 g3 : List String) (s1 s2 : List String × List String),
    equivTys a b (g1, g2) = some s1 → equivTys b c (g2, g3) = some s2 →
    equivTys a c (g1, g3) = some (s1.1, s2.2) :=
  fun a b c g1 g2 g3 s1 s2 h1 h2 => by
    obtain ⟨e1, rfl⟩ := (equivTys_iff a b 0 0 g1 g2 s1).1 h1
    obtain ⟨e2, rfl⟩ := (equivTys_iff b c 0 0 g2 g3 s2).1 h2
    exact (equivTys_iff a c 0 0 g1 g3 _).2 ⟨e1.trans e2, rfl⟩
theorem equivIns_trans : ∀ (a b c : FnIns) (g1 g2 g3 : List String) (s1 s2 : List String × List String),
    equivIns a b (g1, g2) = some s1 → equivIns b c (g2, g3) = some s2 →
    equivIns a c (g1, g3) = some (s1.1, s2.2) :=
  fun a b c g1 g2 g3 s1 s2 h1 h2 => by
    obtain ⟨e1, rfl⟩ := (equivIns_iff a b 0 0 g1 g2 s1).1 h1
    obtain ⟨e2, rfl⟩ := (equivIns_iff b c 0 0 g2 g3 s2).1 h2
    exact (equivIns_iff a c 0 0 g1 g3 _).2 ⟨e1.trans e2, rfl⟩
theorem equivO_trans : ∀ (a b c : OTy) (g1 g2 g3 : List String) (s1 s2 : List String × List String),
    equivO a b (g1, g2) = some s1 → equivO b c (g2, g3) = some s2 →
    equivO a c (g1, g3) = some (s1.1, s2.2) :=
  fun a b c g1 g2 g3 s1 s2 h1 h2 => by
    obtain ⟨e1, rfl⟩ := (equivO_iff a b 0 0 g1 g2 s1).1 h1
    obtain ⟨e2, rfl⟩ := (equivO_iff b c 0 0 g2 g3 s2).1 h2
    exact (equivO_iff a c 0 0 g1 g3 _).2 ⟨e1.trans e2, rfl⟩

theorem equivArgs_skeleton : ∀ (a b : GArgs) (s s' : List String × List String), equivArgs a b s = some s' →
    skeletonArgs a = skeletonArgs b :=
  fun a b s s' h => by
    have := congrArg skeletonArgs ((equivArgs_iff a b 0 0 s.1 s.2 s').1 h).1
    rwa [skeletonArgs_canon, skeletonArgs_canon] at this
theorem equivTys_skeleton : ∀ (a b : Tys) (s s' : List String × List String), equivTys a b s = some s' →
    skeletonTys a = skeletonTys b :=
  fun a b s s' h => by
    have := congrArg skeletonTys ((equivTys_iff a b 0 0 s.1 s.2 s').1 h).1
    rwa [skeletonTys_canon, skeletonTys_canon] at this
theorem equivIns_skeleton : ∀ (a b : FnIns) (s s' : List String × List String), equivIns a b s = some s' →
    skeletonIns a = skeletonIns b :=
  fun a b s s' h => by
    have := congrArg skeletonIns ((equivIns_iff a b 0 0 s.1 s.2 s').1 h).1
    rwa [skeletonIns_canon, skeletonIns_canon] at this
theorem equivO_skeleton : ∀ (a b : OTy) (s s' : List String × List String), equivO a b s = some s' →
    skeletonO a = skeletonO b :=
  fun a b s s' h => by
    have := congrArg skeletonO ((equivO_iff a b 0 0 s.1 s.2 s').1 h).1
    rwa [skeletonO_canon, skeletonO_canon] at this

theorem canonArgs_equiv : ∀ (a b : GArgs) (sa sb : CSt), (canonArgs a sa).1 = (canonArgs b sb).1 →
    equivArgs a b (sa.seen, sb.seen) = some ((canonArgs a sa).2.seen, (canonArgs b sb).2.seen) :=
  fun a b sa sb h => (equivArgs_iff a b sa.lt sb.lt _ _ _).2 ⟨congrArg noLtArgs h, rfl⟩
theorem canonTys_equiv : ∀ (a b : Tys) (sa sb : CSt), (canonTys a sa).1 = (canonTys b sb).1 →
    equivTys a b (sa.seen, sb.seen) = some ((canonTys a sa).2.seen, (canonTys b sb).2.seen) :=
  fun a b sa sb h => (equivTys_iff a b sa.lt sb.lt _ _ _).2 ⟨congrArg noLtTys h, rfl⟩
theorem canonIns_equiv : ∀ (a b : FnIns) (sa sb : CSt), (canonIns a sa).1 = (canonIns b sb).1 →
    equivIns a b (sa.seen, sb.seen) = some ((canonIns a sa).2.seen, (canonIns b sb).2.seen) :=
  fun a b sa sb h => (equivIns_iff a b sa.lt sb.lt _ _ _).2 ⟨congrArg noLtIns h, rfl⟩
theorem canonO_equiv : ∀ (a b : OTy) (sa sb : CSt), (canonO a sa).1 = (canonO b sb).1 →
    equivO a b (sa.seen, sb.seen) = some ((canonO a sa).2.seen, (canonO b sb).2.seen) :=
  fun a b sa sb h => (equivO_iff a b sa.lt sb.lt _ _ _).2 ⟨congrArg noLtO h, rfl⟩

theorem zip_map_swap {α β : Type} (l1 : List α) (l2 : List β) :
    (l1.zip l2).map Prod.swap = l2.zip l1 := by
  rw [List.zip_eq_zipWith, List.map_zipWith, List.zipWith_comm, List.zip_eq_zipWith]; rfl

/-- `ltSkeleton` remembers of a lifetime whether it is `'static`, which is all `canonLt` asks. -/
theorem canonLt_congr {l l' : Lt}
    (h : (if l = .static then Lt.static else .elided) =
      (if l' = .static then Lt.static else .elided))
    (n : Nat) : canonLt l n = canonLt l' n := by
  have hiff : l = .static ↔ l' = .static := by
    by_cases hl : l = .static <;> by_cases hl' : l' = .static <;> simp [hl, hl'] at h ⊢
  by_cases hl : l = .static
  · rw [hl, hiff.1 hl]
  · rw [canonLt_of_ne_static hl, canonLt_of_ne_static (mt hiff.2 hl)]

theorem canonGLt_congr {l l' : GLt}
    (h : (if l = .static then GLt.static else .inferred) =
      (if l' = .static then GLt.static else .inferred))
    (n : Nat) : canonGLt l n = canonGLt l' n := by
  have hiff : l = .static ↔ l' = .static := by
    by_cases hl : l = .static <;> by_cases hl' : l' = .static <;> simp [hl, hl'] at h ⊢
  by_cases hl : l = .static
  · rw [hl, hiff.1 hl]
  · rw [canonGLt_of_ne_static hl, canonGLt_of_ne_static (mt hiff.2 hl)]

mutual
theorem canonGo_complete : ∀ (a b : Ty) (s s' : List String × List String) (n : Nat),
    equivGo a b s = some s' → ltSkeleton a = ltSkeleton b →
    ∃ c k, canonGo a ⟨n, s.1⟩ = (c, ⟨k, s'.1⟩) ∧ canonGo b ⟨n, s.2⟩ = (c, ⟨k, s'.2⟩)
  | .path al p i bs as, b, s, s', n, h, hk => by
      cases b <;> simp only [ltSkeleton, reduceCtorEq, Ty.path.injEq] at hk
      obtain ⟨rfl, rfl, rfl, rfl, hk⟩ := hk
      simp only [equivGo, Option.ite_none_right_eq_some] at h
      obtain ⟨c, k, e1, e2⟩ := canonArgs_complete _ _ _ _ n h.2 hk
      exact ⟨.path al p i bs c, k, by simp only [canonGo, e1], by simp only [canonGo, e2]⟩
  | .ref m l t, b, s, s', n, h, hk => by
      cases b <;> simp only [ltSkeleton, reduceCtorEq, Ty.ref.injEq] at hk
      obtain ⟨rfl, hl, hk⟩ := hk
      simp only [equivGo, Option.ite_none_right_eq_some] at h
      obtain ⟨c, k, e1, e2⟩ := canonGo_complete t _ s s' (canonLt l n).2 h.2 hk
      exact ⟨.ref m (canonLt l n).1 c, k, by simp only [canonGo, e1],
        by simp only [canonGo, ← canonLt_congr hl n, e2]⟩
  | .tuple es, b, s, s', n, h, hk => by
      cases b <;> simp only [ltSkeleton, reduceCtorEq, Ty.tuple.injEq] at hk
      simp only [equivGo] at h
      obtain ⟨c, k, e1, e2⟩ := canonTys_complete _ _ _ _ n h hk
      exact ⟨.tuple c, k, by simp only [canonGo, e1], by simp only [canonGo, e2]⟩
  | .scalar x, b, s, s', n, h, hk => by
      cases b <;> simp only [ltSkeleton, reduceCtorEq, Ty.scalar.injEq] at hk
      subst hk
      simp only [equivGo, Option.ite_none_right_eq_some, Option.some.injEq] at h
      exact ⟨.scalar x, n, by simp only [canonGo, ← h.2], by simp only [canonGo, ← h.2]⟩
  | .slice e, b, s, s', n, h, hk => by
      cases b <;> simp only [ltSkeleton, reduceCtorEq, Ty.slice.injEq] at hk
      simp only [equivGo] at h
      obtain ⟨c, k, e1, e2⟩ := canonGo_complete _ _ _ _ n h hk
      exact ⟨.slice c, k, by simp only [canonGo, e1], by simp only [canonGo, e2]⟩
  | .array e m, b, s, s', n, h, hk => by
      cases b <;> simp only [ltSkeleton, reduceCtorEq, Ty.array.injEq] at hk
      obtain ⟨hk, rfl⟩ := hk
      simp only [equivGo, Option.ite_none_right_eq_some] at h
      obtain ⟨c, k, e1, e2⟩ := canonGo_complete _ _ _ _ n h.2 hk
      exact ⟨.array c m, k, by simp only [canonGo, e1], by simp only [canonGo, e2]⟩
  | .rawPtr m t, b, s, s', n, h, hk => by
      cases b <;> simp only [ltSkeleton, reduceCtorEq, Ty.rawPtr.injEq] at hk
      obtain ⟨rfl, hk⟩ := hk
      simp only [equivGo, Option.ite_none_right_eq_some] at h
      obtain ⟨c, k, e1, e2⟩ := canonGo_complete _ _ _ _ n h.2 hk
      exact ⟨.rawPtr m c, k, by simp only [canonGo, e1], by simp only [canonGo, e2]⟩
  | .fnPtr ins out abi u, b, s, s', n, h, hk => by
      cases b <;> simp only [ltSkeleton, reduceCtorEq, Ty.fnPtr.injEq] at hk
      obtain ⟨hi, ho, rfl, rfl⟩ := hk
      simp only [equivGo, Option.ite_none_right_eq_some] at h
      split at h
      · rename_i s1 h1
        obtain ⟨c1, k1, e1, e2⟩ := canonIns_complete _ _ _ _ n h1 hi
        obtain ⟨c2, k2, e3, e4⟩ := canonO_complete _ _ _ _ k1 h.2 ho
        exact ⟨.fnPtr c1 c2 abi u, k2, by simp only [canonGo, e1, e3],
          by simp only [canonGo, e2, e4]⟩
      · exact nomatch h.2
  | .generic x, b, s, s', n, h, hk => by
      cases b <;> simp only [ltSkeleton, reduceCtorEq] at hk
      simp only [equivGo, Option.ite_none_right_eq_some, Option.some.injEq] at h
      -- `h.1`: the two names got the same number
      exact ⟨.generic (gname (idOf s.1 x).1), n, by simp only [canonGo, ← h.2],
        by simp only [canonGo, ← h.2, h.1]⟩
termination_by structural a => a
theorem canonArgs_complete : ∀ (a b : GArgs) (s s' : List String × List String) (n : Nat),
    equivArgs a b s = some s' → ltSkeletonArgs a = ltSkeletonArgs b →
    ∃ c k, canonArgs a ⟨n, s.1⟩ = (c, ⟨k, s'.1⟩) ∧ canonArgs b ⟨n, s.2⟩ = (c, ⟨k, s'.2⟩)
  | .nil, b, s, s', n, h, hk => by
      cases b <;> simp only [ltSkeletonArgs, reduceCtorEq] at hk
      simp only [equivArgs, Option.some.injEq] at h
      exact ⟨.nil, n, by simp only [canonArgs, ← h], by simp only [canonArgs, ← h]⟩
  | .ty t r, b, s, s', n, h, hk => by
      cases b <;> simp only [ltSkeletonArgs, reduceCtorEq, GArgs.ty.injEq] at hk
      simp only [equivArgs] at h
      split at h
      · rename_i s1 h1
        obtain ⟨c1, k1, e1, e2⟩ := canonGo_complete _ _ _ _ n h1 hk.1
        obtain ⟨c2, k2, e3, e4⟩ := canonArgs_complete _ _ _ _ k1 h hk.2
        exact ⟨.ty c1 c2, k2, by simp only [canonArgs, e1, e3], by simp only [canonArgs, e2, e4]⟩
      · exact nomatch h
  | .lt l r, b, s, s', n, h, hk => by
      cases b <;> simp only [ltSkeletonArgs, reduceCtorEq, GArgs.lt.injEq] at hk
      simp only [equivArgs] at h
      obtain ⟨c, k, e1, e2⟩ := canonArgs_complete r _ s s' (canonGLt l n).2 h hk.2
      exact ⟨.lt (canonGLt l n).1 c, k, by simp only [canonArgs, e1],
        by simp only [canonArgs, ← canonGLt_congr hk.1 n, e2]⟩
  | .const v r, b, s, s', n, h, hk => by
      cases b <;> simp only [ltSkeletonArgs, reduceCtorEq, GArgs.const.injEq] at hk
      obtain ⟨rfl, hk⟩ := hk
      simp only [equivArgs, Option.ite_none_right_eq_some] at h
      obtain ⟨c, k, e1, e2⟩ := canonArgs_complete _ _ _ _ n h.2 hk
      exact ⟨.const v c, k, by simp only [canonArgs, e1], by simp only [canonArgs, e2]⟩
termination_by structural a => a
theorem canonTys_complete : ∀ (a b : Tys) (s s' : List String × List String) (n : Nat),
    equivTys a b s = some s' → ltSkeletonTys a = ltSkeletonTys b →
    ∃ c k, canonTys a ⟨n, s.1⟩ = (c, ⟨k, s'.1⟩) ∧ canonTys b ⟨n, s.2⟩ = (c, ⟨k, s'.2⟩)
  | .nil, b, s, s', n, h, hk => by
      cases b <;> simp only [ltSkeletonTys, reduceCtorEq] at hk
      simp only [equivTys, Option.some.injEq] at h
      exact ⟨.nil, n, by simp only [canonTys, ← h], by simp only [canonTys, ← h]⟩
  | .cons t r, b, s, s', n, h, hk => by
      cases b <;> simp only [ltSkeletonTys, reduceCtorEq, Tys.cons.injEq] at hk
      simp only [equivTys] at h
      split at h
      · rename_i s1 h1
        obtain ⟨c1, k1, e1, e2⟩ := canonGo_complete _ _ _ _ n h1 hk.1
        obtain ⟨c2, k2, e3, e4⟩ := canonTys_complete _ _ _ _ k1 h hk.2
        exact ⟨.cons c1 c2, k2, by simp only [canonTys, e1, e3], by simp only [canonTys, e2, e4]⟩
      · exact nomatch h
termination_by structural a => a
theorem canonIns_complete : ∀ (a b : FnIns) (s s' : List String × List String) (n : Nat),
    equivIns a b s = some s' → ltSkeletonIns a = ltSkeletonIns b →
    ∃ c k, canonIns a ⟨n, s.1⟩ = (c, ⟨k, s'.1⟩) ∧ canonIns b ⟨n, s.2⟩ = (c, ⟨k, s'.2⟩)
  | .nil, b, s, s', n, h, hk => by
      cases b <;> simp only [ltSkeletonIns, reduceCtorEq] at hk
      simp only [equivIns, Option.some.injEq] at h
      exact ⟨.nil, n, by simp only [canonIns, ← h], by simp only [canonIns, ← h]⟩
  | .cons nm t r, b, s, s', n, h, hk => by
      cases b <;> simp only [ltSkeletonIns, reduceCtorEq, FnIns.cons.injEq, true_and] at hk
      simp only [equivIns] at h
      split at h
      · rename_i s1 h1
        obtain ⟨c1, k1, e1, e2⟩ := canonGo_complete _ _ _ _ n h1 hk.1
        obtain ⟨c2, k2, e3, e4⟩ := canonIns_complete _ _ _ _ k1 h hk.2
        exact ⟨.cons none c1 c2, k2, by simp only [canonIns, e1, e3],
          by simp only [canonIns, e2, e4]⟩
      · exact nomatch h
termination_by structural a => a
theorem canonO_complete : ∀ (a b : OTy) (s s' : List String × List String) (n : Nat),
    equivO a b s = some s' → ltSkeletonO a = ltSkeletonO b →
    ∃ c k, canonO a ⟨n, s.1⟩ = (c, ⟨k, s'.1⟩) ∧ canonO b ⟨n, s.2⟩ = (c, ⟨k, s'.2⟩)
  | .none, b, s, s', n, h, hk => by
      cases b <;> simp only [ltSkeletonO, reduceCtorEq] at hk
      simp only [equivO, Option.some.injEq] at h
      exact ⟨.none, n, by simp only [canonO, ← h], by simp only [canonO, ← h]⟩
  | .some t, b, s, s', n, h, hk => by
      cases b <;> simp only [ltSkeletonO, reduceCtorEq, OTy.some.injEq] at hk
      simp only [equivO] at h
      obtain ⟨c, k, e1, e2⟩ := canonGo_complete _ _ _ _ n h hk
      exact ⟨.some c, k, by simp only [canonO, e1], by simp only [canonO, e2]⟩
termination_by structural a => a
end

end Pxv.Ty
