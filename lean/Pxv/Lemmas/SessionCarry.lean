import Pxv.Lemmas.SessionRefine
/-! From `sync = flush` to statements in plain terms: what the store holds after a sync, what the
next request reads. Then what a cookie in the response says about the session it was made from:
inversions of `finalize`, `finalizeSession` and `runRequest`, which need no invariant. -/
set_option linter.unusedSectionVars false
namespace Pxv.Session
open Spec

variable {κ ν : Type} [DecidableEq κ]

theorem sync_ok_flush (cfg : Config) (s s' : Sess κ ν) (w w' : World κ ν) (h : Inv s w)
    (hs : sync cfg s w = (.ok, s', w')) :
    flush cfg true (abs s) (absW w) = some (abs s', absW w') ∧ Inv s' w' := by
  obtain ⟨s1, w1, e, hf, hI⟩ | ⟨w1, e, _⟩ := sync_refines cfg s w h
  · cases hs.symm.trans e
    exact ⟨hf, hI⟩
  · cases hs.symm.trans e

/-- What `get` answers, on the specification side. -/
def specGet (cfg : Config) (k : κ) (S : SSess κ ν) (W : SWorld κ ν) : Option ν :=
  match (look cfg S W).srv with
  | .present m => Map.lookup m k
  | _ => none

theorem getRaw_eq_specGet (cfg : Config) (rem : Nat) (k : κ) (s : Sess κ ν) (w : World κ ν) (h : Inv s w) :
    (getRaw cfg rem k s w).1 = .val (specGet cfg k (abs s) (absW w)) :=
  (step_refines cfg rem (.get k) s w h).1

/-- The session a request starts with when it presents the cookie `(id, c)`. -/
theorem Inv_incoming (id : Nat) (c : Map κ ν) (w : World κ ν) (hw : Bounded (absW w)) (hid : id < w.nextId) :
    Inv (newSession (some (id, c)) w).1 (newSession (some (id, c)) w).2 := by
  refine (newSession_refines (some (id, c)) w hw fun _ _ e => ?_).2
  cases e
  exact hid

theorem specGet_unseen (cfg : Config) (k : κ) (S : SSess κ ν) (W : SWorld κ ν) (h : S.srv = .unseen) :
    specGet cfg k S W = (S.id.oldId.bind W.recs).bind (Map.lookup · k) := by
  simp only [specGet, look, h]
  cases S.id.oldId.bind W.recs with
  | some m => rfl
  | none => cases cfg.missing <;> rfl

theorem specGet_fresh (cfg : Config) (k : κ) (n : Nat) (c : Map κ ν) (W : SWorld κ ν) :
    specGet cfg k ⟨.existing n, c, false, .unseen, false⟩ W = (W.recs n).bind (Map.lookup · k) :=
  specGet_unseen cfg k _ W rfl

/-- The heart of carry-over on the pair of maps: after a flush, a fresh look under the new id sees
    what the session saw. -/
theorem flush_carry (cfg : Config) (k : κ) (S S1 : SSess κ ν) (W W1 : SWorld κ ν) (c : Map κ ν)
    (hI : SInv S W) (hf : flush cfg true S W = some (S1, W1)) :
    specGet cfg k ⟨.existing S1.id.newId, c, false, .unseen, false⟩ W1 = specGet cfg k S W := by
  rw [specGet_fresh]
  obtain ⟨id, cli, dirty, srv, inv⟩ := S
  cases srv with
  | unseen =>
    -- nothing looked at: the session would have seen the record under its old id
    rw [specGet_unseen _ _ _ _ rfl]
    cases id with
    | existing n =>
      cases hf
      rfl
    | newlyGenerated n => exact absurd rfl (hI.newFresh n rfl).2
    | toBeRenamed o n =>
      simp only [flush] at hf
      split at hf
      · rename_i hr
        cases hf
        simp only [CurId.newId, CurId.oldId, Option.bind_some, set_recs, hr, ↓reduceIte]
      · cases hf
  | present m =>
    -- the map the session saw is written under the new id
    cases hf
    simp only [set_recs, CurId.newId, ↓reduceIte]
    rfl
  | absent =>
    -- an empty record is created, or none is there
    simp only [flush] at hf
    split at hf
    · cases hf
      simp only [set_recs, CurId.newId, ↓reduceIte]
      rfl
    · cases hf
      rw [normId_newId, hI.absent_newId rfl]
      rfl
  | deleted =>
    cases hf
    rw [normId_newId, hI.unset_newId]
    rfl

/-- `flush` of a session whose id has been cycled: the records have moved from the old id to the new. -/
theorem flush_renamed (cfg : Config) (S S' : SSess κ ν) (W W' : SWorld κ ν) (o n : Nat) (hid : S.id = .toBeRenamed o n)
    (hne : o ≠ n) (ho : S.srv = .absent → W.recs o = none)
    (hf : flush cfg true S W = some (S', W')) :
    S'.id = .existing n ∧ W'.recs o = none ∧ (∀ m, S.srv = .present m → W'.recs n = some m) ∧
      (S.srv = .unseen → W'.recs n = W.recs o) := by
  have hne' : ¬ n = o := fun e => hne e.symm
  obtain ⟨id, cli, dirty, srv, inv⟩ := S
  cases hid
  cases srv with
  | unseen =>
    -- the record, if there is one, moves from `o` to `n`
    simp only [flush] at hf
    split at hf
    · rename_i hr
      cases hf
      exact ⟨rfl, (if_neg hne').trans (if_pos rfl), nofun, fun _ => (if_pos rfl).trans hr.symm⟩
    · cases hf
  | present m =>
    -- `o` is erased and `m` written under `n`
    cases hf
    refine ⟨rfl, (if_neg hne').trans (if_pos rfl), fun _ e => ?_, nofun⟩
    cases e
    exact if_pos rfl
  | absent =>
    -- an empty record under `n`, or nothing; none under `o` by `ho`
    simp only [flush] at hf
    split at hf
    · cases hf
      exact ⟨rfl, (if_neg hne').trans (ho rfl), nofun, nofun⟩
    · cases hf
      exact ⟨rfl, ho rfl, nofun, nofun⟩
  | deleted =>
    -- `o` is erased
    cases hf
    exact ⟨rfl, if_pos rfl, nofun, nofun⟩

theorem finalize_set_sync (cfg : Config) (s s' : Sess κ ν) (w w' : World κ ν) (id : Nat) (c : Map κ ν)
    (h : finalize cfg s w = (.set id c, s', w')) :
    sync cfg s w = (.ok, s', w') ∧ s'.invalidated = false ∧ id = s'.id.newId ∧ c = s'.client.state := by
  unfold finalize at h
  generalize sync cfg s w = m at h ⊢
  obtain ⟨o, s1, w1⟩ := m
  cases o with
  | ok =>
    simp only at h
    split at h
    · -- invalidated: a removal cookie or none
      split at h <;> cases h
    · rename_i hinv
      -- the arms for `markedForDeletion` and `changed` panic
      split at h
      · cases h
      · cases h
      · -- a cell that `sync` can leave: no cookie, or the cookie of the synced session. The condition is taken
        -- as a whole: `split at h` would first go into the `match` inside it (is there a record?)
        generalize (s1.client.state.isEmpty && s1.id.oldId.isNone && !_) = noCookie at h
        cases noCookie with
        | true => cases h
        | false =>
          cases h
          exact ⟨rfl, Bool.eq_false_iff.2 hinv, rfl, rfl⟩
  | err e => cases h
  | panic => cases h

theorem finalize_set_client (cfg : Config) (s s' : Sess κ ν) (w w' : World κ ν) (id : Nat) (c : Map κ ν)
    (h : finalize cfg s w = (.set id c, s', w')) : c = s.client.state ∧ s.invalidated = false := by
  obtain ⟨hs, hi, _, hc⟩ := finalize_set_sync cfg s s' w w' id c h
  obtain ⟨_, g2, g3⟩ := sync_ok_fields cfg s s' w w' hs
  exact ⟨g3 ▸ hc, g2 ▸ hi⟩

/-- A session cookie passes the middleware only as `finalize` made it, and only if the processor's rules
    allow it: encryption unless there is no client-side state, some protection in any case. -/
theorem finalizeSession_cookie (cfg : Config) (s s' : Sess κ ν) (w w' : World κ ν) (f : Fin κ ν)
    (h : finalizeSession cfg s w = (f, s', w')) (hc : (∃ id c, f = .set id c) ∨ f = .removal) :
    finalize cfg s w = (f, s', w') ∧ (clientIsEmpty s = false → willEncrypt cfg = true) ∧
      (willEncrypt cfg = false → willSign cfg = true) := by
  have no (e : FinErr) (h : f = .err e) : False := by
    rcases hc with ⟨_, _, hc⟩ | hc <;> cases hc.symm.trans h
  unfold finalizeSession at h
  generalize finalize cfg s w = m at h ⊢
  obtain ⟨f0, s0, w0⟩ := m
  cases f0 with
  | set | removal =>
    -- a cookie from `finalize`: it gets through only if neither rule refuses
    simp only at h
    split at h
    · cases h
      exact (no _ rfl).elim
    · split at h
      · cases h
        exact (no _ rfl).elim
      · rename_i h1 h2
        exact ⟨h, by simpa using h1, by simpa using h2⟩
  | none | err | panic =>
    -- passed on as it is, and not a cookie
    cases h
    rcases hc with ⟨_, _, hc⟩ | hc <;> cases hc

theorem finalizeSession_set (cfg : Config) (s s' : Sess κ ν) (w w' : World κ ν) (id : Nat) (c : Map κ ν)
    (h : finalizeSession cfg s w = (.set id c, s', w')) : finalize cfg s w = (.set id c, s', w') :=
  (finalizeSession_cookie cfg s s' w w' _ h (.inl ⟨id, c, rfl⟩)).1

theorem runRequest_fin (cfg : Config) (rem : Nat) (incoming : Option (Nat × Map κ ν)) (ops : List (Op κ ν)) (w : World κ ν) :
    (runRequest cfg rem incoming ops w).2.1 = .panic ∨
      ∃ s w1 s' w', finalizeSession cfg s w1 = ((runRequest cfg rem incoming ops w).2.1, s', w') := by
  simp only [runRequest]
  split
  · exact .inl rfl
  · exact .inr ⟨_, _, _, _, rfl⟩

end Pxv.Session
