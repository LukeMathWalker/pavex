import Pxv.Model.TySpec
/-! `render_type` (crate lookup) is `display_for_error` of the relabelled type; the two fail
together. -/
namespace Pxv.Ty

theorem relabelTys_len (lk : List (String × String)) :
    ∀ (es es' : Tys), relabelTys lk es = some es' → tysLen es' = tysLen es
  | .nil, _, h => by cases h; rfl
  | .cons t r, es', h => by
      -- `relabelTys` answers only where both the head and the tail are relabelled
      rw [relabelTys] at h
      cases ht : relabel lk t with
      | none => rw [ht] at h; cases h
      | some t' =>
        cases hr : relabelTys lk r with
        | none => rw [ht, hr] at h; cases h
        | some r' =>
          rw [ht, hr] at h
          cases h
          exact congrArg (· + 1) (relabelTys_len lk r r' hr)

/-- With two segments or more, the head that `headLk` builds is `joinSep` of the relabelled path. -/
theorem headLk_eq {lk : List (String × String)} {p cn : String} (h : crateOf lk p = some cn)
    (b0 x : String) (tail : List String) :
    headLk lk p (b0 :: x :: tail) = some (joinSep "::".toList (cn :: x :: tail)) := by
  rw [headLk, h]
  rfl

/- In every case: unfold both sides one step and rewrite the parts by the induction hypotheses; what
   is left are two `match`es on the same relabelled parts, equal whichever way those come out. -/
mutual
theorem renderLk_eq (lk : List (String × String)) (e : Bool) : ∀ t : Ty, longPaths t = true →
    renderLk lk e t = (relabel lk t).map (renderD e)
  | .scalar _, _ | .generic _, _ => rfl
  | .ref _ _ t, hl | .slice t, hl | .array t _, hl | .rawPtr _ t, hl => by
      rw [longPaths] at hl
      rw [renderLk, relabel, renderLk_eq lk e t hl]
      cases relabel lk t <;> rfl
  | .tuple es, hl => by
      rw [longPaths] at hl
      rw [renderLk, relabel, renderTysLk_eq lk e es hl true]
      cases h : relabelTys lk es with
      | none => rfl
      | some es' =>
        -- the `,` of a 1-tuple is printed by length, and relabelling keeps the length
        simp only [Option.map, renderD, relabelTys_len lk es es' h]
  | .fnPtr ins out abi u, hl => by
      rw [longPaths, Bool.and_eq_true] at hl
      rw [renderLk, relabel, renderInsLk_eq lk e ins hl.1 true, renderOLk_eq lk e out hl.2]
      cases relabelIns lk ins <;> cases relabelO lk out <;> rfl
  | .path al p i [] as, hl | .path al p i [_] as, hl => by simp [longPaths] at hl
  | .path al p i (b0 :: x :: tail) as, hl => by
      rw [longPaths, Bool.and_eq_true] at hl
      have ha := renderArgsLk_eq lk e as hl.2 true
      rw [renderLk, relabel]
      cases hc : crateOf lk p with
      | none =>
        rw [headLk, hc]
        rfl
      | some cn =>
        rw [headLk_eq hc]
        -- `renderD` prints a `<…>` part exactly when there are arguments: for none it appends `[]`,
        -- otherwise `relabelArgs` keeps the first argument as one
        cases as with
        | nil => exact congrArg some (List.append_nil _).symm
        | ty t r =>
          simp only [ha]
          rw [relabelArgs]
          cases relabel lk t <;> cases relabelArgs lk r <;> rfl
        | lt _ r | const _ r =>
          simp only [ha]
          rw [relabelArgs]
          cases relabelArgs lk r <;> rfl
theorem renderArgsLk_eq (lk : List (String × String)) (e : Bool) :
    ∀ as : GArgs, longPathsArgs as = true → ∀ first,
      renderArgsLk lk e first as = (relabelArgs lk as).map (renderArgsD e first)
  | .nil, _, _ => rfl
  | .ty t r, hl, first => by
      rw [longPathsArgs, Bool.and_eq_true] at hl
      rw [renderArgsLk, relabelArgs, renderLk_eq lk e t hl.1, renderArgsLk_eq lk e r hl.2 false]
      cases relabel lk t <;> cases relabelArgs lk r <;> rfl
  | .lt _ r, hl, first | .const _ r, hl, first => by
      rw [longPathsArgs] at hl
      rw [renderArgsLk, relabelArgs, renderArgsLk_eq lk e r hl false]
      cases relabelArgs lk r <;> rfl
theorem renderTysLk_eq (lk : List (String × String)) (e : Bool) :
    ∀ es : Tys, longPathsTys es = true → ∀ first,
      renderTysLk lk e first es = (relabelTys lk es).map (renderTysD e first)
  | .nil, _, _ => rfl
  | .cons t r, hl, first => by
      rw [longPathsTys, Bool.and_eq_true] at hl
      rw [renderTysLk, relabelTys, renderLk_eq lk e t hl.1, renderTysLk_eq lk e r hl.2 false]
      cases relabel lk t <;> cases relabelTys lk r <;> rfl
theorem renderInsLk_eq (lk : List (String × String)) (e : Bool) :
    ∀ ins : FnIns, longPathsIns ins = true → ∀ first,
      renderInsLk lk e first ins = (relabelIns lk ins).map (renderInsD e first)
  | .nil, _, _ => rfl
  | .cons n t r, hl, first => by
      rw [longPathsIns, Bool.and_eq_true] at hl
      unfold renderInsLk
      rw [relabelIns, renderLk_eq lk e t hl.1, renderInsLk_eq lk e r hl.2 false]
      cases relabel lk t <;> cases relabelIns lk r <;> rfl
theorem renderOLk_eq (lk : List (String × String)) (e : Bool) :
    ∀ o : OTy, longPathsO o = true → renderOLk lk e o = (relabelO lk o).map (renderOD e)
  | .none, _ => rfl
  | .some t, hl => by
      rw [longPathsO] at hl
      rw [renderOLk, relabelO, renderLk_eq lk e t hl]
      cases relabel lk t <;> rfl
end

theorem renderLk_relabel (lk : List (String × String)) (e : Bool) :
    ∀ (t t' : Ty), relabel lk t = some t' → longPaths t = true →
      renderLk lk e t = some (renderD e t') :=
  fun t _ h hl => by rw [renderLk_eq lk e t hl, h]; rfl

theorem renderArgsLk_relabel (lk : List (String × String)) (e : Bool) : ∀ (as as' : GArgs),
    relabelArgs lk as = some as' → longPathsArgs as = true →
    ∀ first, renderArgsLk lk e first as = some (renderArgsD e first as') :=
  fun as _ h hl first => by rw [renderArgsLk_eq lk e as hl, h]; rfl

theorem renderTysLk_relabel (lk : List (String × String)) (e : Bool) : ∀ (es es' : Tys),
    relabelTys lk es = some es' → longPathsTys es = true →
    ∀ first, renderTysLk lk e first es = some (renderTysD e first es') :=
  fun es _ h hl first => by rw [renderTysLk_eq lk e es hl, h]; rfl

theorem renderInsLk_relabel (lk : List (String × String)) (e : Bool) : ∀ (ins ins' : FnIns),
    relabelIns lk ins = some ins' → longPathsIns ins = true →
    ∀ first, renderInsLk lk e first ins = some (renderInsD e first ins') :=
  fun ins _ h hl first => by rw [renderInsLk_eq lk e ins hl, h]; rfl

theorem renderOLk_relabel (lk : List (String × String)) (e : Bool) : ∀ (o o' : OTy),
    relabelO lk o = some o' → longPathsO o = true → renderOLk lk e o = some (renderOD e o') :=
  fun o _ h hl => by rw [renderOLk_eq lk e o hl, h]; rfl

end Pxv.Ty
