import Pxv.Model.Stalemate
import Pxv.Lemmas.InsertClone
import Pxv.Lemmas.Borrow
/-! `findStalemate` / `resolveStalemates` (Model/Stalemate.lean, the forward-played node ordering): what the forward
pass returns; that the resolution loop ends within its fuel, reports nothing on capture-free graphs whose contended
values may be cloned, and only adds clones of clone-if-necessary values. -/
namespace Pxv.CG
open Graph

theorem blockedInputs_spec {g : Graph} {placed : List Nat} {n b : Nat} (h : b ∈ blockedInputs g placed n) :
    b ∈ g.preds n ∧ (g.consumers b).contains n = true ∧ (g.node b).copy = false ∧
      ∃ x ∈ allBorrowers g b, x ∉ placed := by
  unfold blockedInputs at h
  rw [mem_toSet, List.mem_filter] at h
  obtain ⟨hp, hc⟩ := h
  simp only [Bool.and_eq_true, Bool.not_eq_true', List.any_eq_true] at hc
  obtain ⟨⟨h1, x, hx, hxp⟩, h3⟩ := hc
  exact ⟨hp, h1, h3, x, hx, fun hm => by simp [hm] at hxp⟩

/-- the guard of the ordering step, as the forward pass evaluates it. -/
theorem canPlace_iff_blockedInputs {g : Graph} {placed : List Nat} {n : Nat} :
    canPlace g placed n = true ↔
      ((g.preds n).all placed.contains = true ∧ blockedInputs g placed n = []) := by
  unfold canPlace blockedInputs
  rw [toSet_eq_nil, List.filter_eq_nil_iff, List.all_eq_true, List.all_eq_true]
  simp only [Bool.and_eq_true, Bool.not_eq_true', ← Bool.not_eq_true]
  exact ⟨fun h => ⟨fun p hp => (h p hp).1, fun p hp => (h p hp).2⟩,
    fun h p hp => ⟨h.1 p hp, h.2 p hp⟩⟩

/-- a state of the forward pass: nodes of the graph, each once; when no node is ignored, a run of the ordering system. -/
structure Reached (g : Graph) (ign pl : List Nat) : Prop where
  nodup : pl.Nodup
  bound : ∀ x ∈ pl, x < g.size
  run : ign = [] → isRunFrom g [] pl = true

theorem Reached.nil (g : Graph) (ign : List Nat) : Reached g ign [] :=
  { nodup := List.nodup_nil, bound := fun _ hx => (nomatch hx), run := fun _ => rfl }

theorem Reached.snoc {g : Graph} {ign pl : List Nat} {n : Nat} (h : Reached g ign pl) (hn : n < g.size) (hnp : n ∉ pl)
    (hc : ign = [] → canPlace g pl n = true) : Reached g ign (pl ++ [n]) :=
  { nodup := nodup_snoc h.nodup hnp
    bound := bound_snoc h.bound hn
    run := fun hi => isRunFrom_snoc (h.run hi) hnp (hc hi) }

theorem sweepStep_cases (g : Graph) (ign : List Nat) (st : Sweep) (n : Nat) :
    ((n ∈ st.placed ∨ (g.preds n).all st.placed.contains = false) ∧ sweepStep g ign st n = st) ∨
    (n ∉ st.placed ∧ (g.preds n).all st.placed.contains = true ∧ (n ∈ ign ∨ blockedInputs g st.placed n = []) ∧
      sweepStep g ign st n = { st with placed := st.placed ++ [n], progressed := true }) ∨
    (n ∉ st.placed ∧ (g.preds n).all st.placed.contains = true ∧ n ∉ ign ∧ blockedInputs g st.placed n ≠ [] ∧
      sweepStep g ign st n = { st with stale := st.stale ++ [(n, blockedInputs g st.placed n)] }) := by
  unfold sweepStep
  by_cases h1 : n ∈ st.placed
  · exact Or.inl ⟨Or.inl h1, by simp [h1]⟩
  cases h2 : (g.preds n).all st.placed.contains
  · exact Or.inl ⟨Or.inr rfl, by simp [h1]⟩
  by_cases h3 : n ∈ ign
  · exact Or.inr (Or.inl ⟨h1, rfl, Or.inl h3, by simp [h1, h3]⟩)
  by_cases h4 : blockedInputs g st.placed n = []
  · exact Or.inr (Or.inl ⟨h1, rfl, Or.inr h4, by simp [h1, h3, h4]⟩)
  · exact Or.inr (Or.inr ⟨h1, rfl, h3, h4, by simp [h1, h3, h4]⟩)

/-- a sweep that started from `P0`, after the nodes below `k`: it has scheduled something, or every node examined is
    scheduled already, waits for a dependency, or is recorded as stuck with its contended inputs. -/
structure SweepInv (g : Graph) (ign P0 : List Nat) (k : Nat) (st : Sweep) : Prop where
  reached : Reached g ign st.placed
  cases : (st.progressed = true ∧ P0.length < st.placed.length) ∨
    (st.progressed = false ∧ st.placed = P0 ∧
      (∀ n, n < k → n ∈ P0 ∨ (g.preds n).all P0.contains = false ∨ (n, blockedInputs g P0 n) ∈ st.stale) ∧
      ∀ s ∈ st.stale, s.1 < k ∧ s.1 ∉ P0 ∧ s.1 ∉ ign ∧ s.2 = blockedInputs g P0 s.1 ∧ s.2 ≠ [])

theorem sweepStep_inv {g : Graph} {ign P0 : List Nat} {k : Nat} {st : Sweep} (hk : k < g.size)
    (h : SweepInv g ign P0 k st) : SweepInv g ign P0 (k + 1) (sweepStep g ign st k) := by
  obtain ⟨hre, hc⟩ := h
  have hlen : P0.length ≤ st.placed.length := by
    rcases hc with ⟨_, h⟩ | ⟨_, h, _⟩
    · exact Nat.le_of_lt h
    · rw [h]
      exact Nat.le_refl _
  rcases sweepStep_cases g ign st k with ⟨hw, e⟩ | ⟨hnp, hpr, hbl, e⟩ | ⟨hnp, hpr, hni, hbl, e⟩
  · -- `k` is scheduled already or waits for a dependency: the state is left alone
    rw [e]
    refine ⟨hre, hc.imp_right fun ⟨hp, hs, h1, h2⟩ => ⟨hp, hs, fun n hn => ?_, fun s hs' => ?_⟩⟩
    · rcases Nat.lt_succ_iff_lt_or_eq.1 hn with hn | rfl
      · exact h1 n hn
      · rw [← hs]
        exact hw.imp_right Or.inl
    · have := h2 s hs'
      exact ⟨Nat.lt_succ_of_lt this.1, this.2⟩
  · -- `k` is scheduled now
    rw [e]
    have hcp : ign = [] → canPlace g st.placed k = true :=
      fun hi => canPlace_iff_blockedInputs.2 ⟨hpr, hbl.resolve_left (by simp [hi])⟩
    have hlen' : P0.length < (st.placed ++ [k]).length := by
      simp only [List.length_append, List.length_singleton]
      exact Nat.lt_succ_of_le hlen
    exact ⟨hre.snoc hk hnp hcp, Or.inl ⟨rfl, hlen'⟩⟩
  · -- `k` is stuck: recorded with its contended inputs
    rw [e]
    refine ⟨hre, hc.imp_right fun ⟨hp, hs, h1, h2⟩ => ⟨hp, hs, fun n hn => ?_, fun s hs' => ?_⟩⟩
    · rcases Nat.lt_succ_iff_lt_or_eq.1 hn with hn | rfl
      · exact (h1 n hn).imp_right (Or.imp_right (List.mem_append_left _))
      · rw [← hs]
        exact Or.inr (Or.inr (List.mem_append_right _ (List.mem_singleton.2 rfl)))
    · rcases List.mem_append.1 hs' with hs' | hs'
      · have := h2 s hs'
        exact ⟨Nat.lt_succ_of_lt this.1, this.2⟩
      · rw [List.mem_singleton.1 hs', ← hs]
        exact ⟨Nat.lt_succ_self _, hnp, hni, rfl, hbl⟩

theorem sweep_inv {g : Graph} {ign P0 : List Nat} (h : Reached g ign P0) :
    SweepInv g ign P0 g.size (sweep g ign P0) := by
  have : ∀ k, k ≤ g.size →
      SweepInv g ign P0 k ((List.range k).foldl (sweepStep g ign) { placed := P0 }) := by
    intro k
    induction k with
    | zero =>
      intro _
      exact ⟨h, Or.inr ⟨rfl, rfl, fun n hn => absurd hn (Nat.not_lt_zero n), fun s hs => nomatch hs⟩⟩
    | succ k ih =>
      intro hk
      rw [List.range_succ, List.foldl_append]
      exact sweepStep_inv hk (ih (Nat.le_of_lt hk))
  exact this g.size (Nat.le_refl _)

theorem findStalemateLoop_spec (g : Graph) (ign : List Nat) :
    ∀ (fuel : Nat) (placed : List Nat), Reached g ign placed → g.size + 1 ≤ placed.length + fuel →
      ∃ final, Reached g ign final ∧ (sweep g ign final).progressed = false ∧
        findStalemateLoop g ign fuel placed = (sweep g ign final).stale := by
  intro fuel
  induction fuel with
  | zero =>
    intro placed h hlen
    have := nodup_bound_length h.nodup h.bound
    omega
  | succ f ih =>
    intro placed h hlen
    have inv := sweep_inv h
    by_cases hp : (sweep g ign placed).progressed = true
    · simp only [findStalemateLoop, hp, if_true]
      rcases inv.cases with ⟨_, hl⟩ | ⟨hf, _⟩
      · exact ih _ inv.reached (by omega)
      · rw [hp] at hf
        cases hf
    · exact ⟨placed, h, by simpa using hp, by simp only [findStalemateLoop, hp]; rfl⟩

/-- **what `find_ordering_stalemates` answers**: there is a state `final` of the forward pass from which a whole sweep
    schedules nothing; the answer lists exactly the nodes outside `final` whose dependencies are all scheduled and that
    are not ignored, each with its (non-empty) list of contended inputs. -/
theorem findStalemate_spec (g : Graph) (ign : List Nat) : ∃ final, Reached g ign final ∧
    (∀ n, n < g.size → n ∈ final ∨ (g.preds n).all final.contains = false ∨
      (n, blockedInputs g final n) ∈ findStalemate g ign) ∧
    ∀ s ∈ findStalemate g ign, s.1 < g.size ∧ s.1 ∉ final ∧ s.1 ∉ ign ∧ s.2 = blockedInputs g final s.1 ∧ s.2 ≠ [] := by
  obtain ⟨final, hre, hp, he⟩ :=
    findStalemateLoop_spec g ign (g.size + 1) [] (Reached.nil g ign) (by simp)
  unfold findStalemate
  rw [he]
  rcases (sweep_inv hre).cases with ⟨ht, _⟩ | ⟨_, _, h1, h2⟩
  · rw [hp] at ht
    cases ht
  · exact ⟨final, hre, h1, h2⟩

/-- a stalemate as `find_ordering_stalemates` reports it: a node of the graph that is not ignored, and a non-empty list
    of dependencies each of which the node takes by value. -/
structure Genuine (g : Graph) (ign : List Nat) (s : Nat × List Nat) : Prop where
  lt : s.1 < g.size
  notIgnored : s.1 ∉ ign
  ne_nil : s.2 ≠ []
  inputs : ∀ b ∈ s.2,
    b ∈ g.preds s.1 ∧ (g.consumers b).contains s.1 = true ∧ (g.node b).copy = false ∧ allBorrowers g b ≠ []

theorem findStalemate_genuine {g : Graph} {ign : List Nat} {s : Nat × List Nat}
    (h : s ∈ findStalemate g ign) : Genuine g ign s := by
  obtain ⟨final, _, _, hstale⟩ := findStalemate_spec g ign
  obtain ⟨hlt, _, hni, hbl, hne⟩ := hstale s h
  refine { lt := hlt, notIgnored := hni, ne_nil := hne, inputs := fun b hb => ?_ }
  obtain ⟨hpred, hcons, hcopy, x, hx, _⟩ := blockedInputs_spec (hbl ▸ hb)
  exact ⟨hpred, hcons, hcopy, List.ne_nil_of_mem hx⟩

theorem findStalemate_none {g : Graph} (h : findStalemate g [] = []) :
    ∃ final, isRunFrom g [] final = true ∧ (∀ x ∈ final, x < g.size) ∧
      ∀ n, n < g.size → n ∈ final ∨ (g.preds n).all final.contains = false := by
  obtain ⟨final, hre, h1, _⟩ := findStalemate_spec g []
  refine ⟨final, hre.run rfl, hre.bound,
    fun n hn => (h1 n hn).imp_right fun h' => h'.resolve_right ?_⟩
  rw [h]
  exact List.not_mem_nil

theorem findStalemate_some {g : Graph} {s : Nat × List Nat} (h : s ∈ findStalemate g []) :
    ∃ final, isRunFrom g [] final = true ∧ (∀ x ∈ final, x < g.size) ∧
      (∀ n, n < g.size → n ∈ final ∨ canPlace g final n = false) ∧ s.1 < g.size ∧ s.1 ∉ final := by
  obtain ⟨final, hre, h1, h2⟩ := findStalemate_spec g []
  refine ⟨final, hre.run rfl, hre.bound, fun n hn => (h1 n hn).imp_right fun h' => ?_,
    (h2 s h).1, (h2 s h).2.1⟩
  -- a node outside `final` waits for a dependency or is recorded with a non-empty list of contended inputs
  cases hcp : canPlace g final n with
  | false => rfl
  | true =>
    obtain ⟨hpreds, hnoBlock⟩ := canPlace_iff_blockedInputs.1 hcp
    rcases h' with h' | h'
    · rw [hpreds] at h'
      cases h'
    · obtain ⟨_, _, _, hbl, hne⟩ := h2 _ h'
      exact absurd hnoBlock (hbl ▸ hne)

theorem all_placed {g : Graph} {r : Nat → Nat} (hr : Ranked g r)
    (hwf : g.wellFormed = true) {final : List Nat}
    (h : ∀ n, n < g.size → n ∈ final ∨ (g.preds n).all final.contains = false) :
    ∀ n, n < g.size → n ∈ final := by
  suffices H : ∀ k n, r n = k → n < g.size → n ∈ final from fun n hn => H (r n) n rfl hn
  intro k
  induction k using Nat.strongRecOn with
  | ind k ih =>
    intro n hk hn
    refine (h n hn).resolve_right fun h1 => ?_
    rw [List.all_eq_false] at h1
    obtain ⟨p, hp, hpf⟩ := h1
    obtain ⟨e, he, rfl, rfl⟩ := mem_preds.1 hp
    have hsrc : e.src ∈ final :=
      ih (r e.src) (hk ▸ hr e he) e.src rfl (lt_size_of_mem_edges hwf he).1
    exact hpf (List.contains_iff_mem.mpr hsrc)

/-- one round of the `'resolution` loop: nothing is stuck; or an input of a stuck node may be cloned and is; or none may,
    and the first stuck node is reported. -/
theorem resolveLoop_succ (fuel : Nat) (g : Graph) (reported : List Nat) (ds : List OsDiag) :
    (findStalemate g reported = [] ∧ resolveLoop (fuel + 1) g reported ds = (g, ds)) ∨
    (∃ n b, b ∈ g.preds n ∧ (g.consumers b).contains n = true ∧ (g.node b).cloneable = true ∧
      resolveLoop (fuel + 1) g reported ds = resolveLoop fuel (insertClone g b n).1 reported ds) ∨
    (∃ n0 bl0, (n0, bl0) ∈ findStalemate g reported ∧
      (∀ s ∈ findStalemate g reported, ∀ b ∈ s.2, (g.node b).cloneable = false) ∧
      resolveLoop (fuel + 1) g reported ds = resolveLoop fuel g (reported ++ [n0]) (ds ++ [.stalemate n0 bl0])) := by
  simp only [resolveLoop]
  split
  · rename_i h
    exact Or.inl ⟨h, rfl⟩
  · rename_i n0 bl0 rest hsome
    right
    split
    · rename_i n b hfs
      obtain ⟨s, hs, hf⟩ := List.exists_of_findSome?_eq_some hfs
      simp only [Option.map_eq_some_iff, Prod.mk.injEq] at hf
      obtain ⟨b', hfind, rfl, rfl⟩ := hf
      obtain ⟨hpred, hcons, _⟩ :=
        (findStalemate_genuine (hsome ▸ hs)).inputs b' (List.mem_of_find?_eq_some hfind)
      exact Or.inl ⟨_, _, hpred, hcons, by simpa using List.find?_some hfind, rfl⟩
    · rename_i hfs
      refine Or.inr ⟨n0, bl0, hsome ▸ List.mem_cons_self .., fun s hs b hb => ?_, rfl⟩
      have := List.findSome?_eq_none_iff.1 hfs s (hsome ▸ hs)
      simpa using List.find?_eq_none.1 (Option.map_eq_none_iff.1 this) b hb

theorem resolveLoop_graph_inv {I : Graph → Prop}
    (step : ∀ g n b, I g → b ∈ g.preds n → (g.node b).cloneable = true → I (insertClone g b n).1) :
    ∀ (fuel : Nat) (g : Graph) (reported : List Nat) (ds : List OsDiag), I g → I (resolveLoop fuel g reported ds).1 := by
  intro fuel
  induction fuel with
  | zero => exact fun g _ _ h => h
  | succ f ih =>
    intro g reported ds h
    rcases resolveLoop_succ f g reported ds with ⟨_, e⟩ | ⟨n, b, hp, _, hc, e⟩ | ⟨n0, bl0, _, _, e⟩
    · rw [e]
      exact h
    · rw [e]
      exact ih _ _ _ (step g n b h hp hc)
    · rw [e]
      exact ih _ _ _ h

theorem resolveLoop_nil :
    ∀ (fuel : Nat) (g : Graph) (reported : List Nat) (ds : List OsDiag) (g' : Graph),
      resolveLoop fuel g reported ds = (g', []) → ds = [] ∧ findStalemate g' reported = [] := by
  intro fuel
  induction fuel with
  | zero =>
    intro g reported ds g' h
    simp [resolveLoop] at h
  | succ f ih =>
    intro g reported ds g' h
    rcases resolveLoop_succ f g reported ds with ⟨hn, e⟩ | ⟨n, b, _, _, _, e⟩ | ⟨n0, bl0, _, _, e⟩
    · rw [e] at h
      cases h
      exact ⟨rfl, hn⟩
    · rw [e] at h
      exact ih _ _ _ _ h
    · -- a report: the diagnostics are not empty afterwards
      rw [e] at h
      have := (ih _ _ _ _ h).1
      simp at this

/-- the `move` edges whose source may be cloned: each clone inserted by `resolveStalemates` removes one. -/
def cloneableMoves (g : Graph) : Nat :=
  (g.edges.filter (fun e => e.kind == .move && (g.node e.src).cloneable)).length

theorem cloneableMoves_insertClone {g : Graph} {b n : Nat} (hwf : g.wellFormed = true)
    (hc : (g.node b).cloneable = true) (hm : (g.consumers b).contains n = true) :
    cloneableMoves (insertClone g b n).1 < cloneableMoves g := by
  obtain ⟨e, he, hs, hd, hk⟩ := mem_consumers.1 (List.contains_iff_mem.mp hm)
  unfold cloneableMoves
  -- neither new edge counts (the clone may not be cloned), the old ones count as before, and `b → n` is gone
  have hnew : ([⟨b, g.size, .shared⟩, ⟨g.size, n, .move⟩] : List Edge).filter
      (fun e => e.kind == .move && ((insertClone g b n).1.node e.src).cloneable) = [] := by
    simp [(node_insertClone_ge g b n g.size (Nat.le_refl _)).2]
  have hold :
      g.edges.filter (fun e => e.kind == .move && ((insertClone g b n).1.node e.src).cloneable) =
      g.edges.filter (fun e => e.kind == .move && (g.node e.src).cloneable) :=
    List.filter_congr fun e he => by
      rw [cloneable_insertClone_old g b n e.src (lt_size_of_mem_edges hwf he).1]
  rw [filter_edges_insertClone, hnew, List.append_nil, hold]
  exact List.length_filter_lt_length_iff_exists.2
    ⟨e, List.mem_filter.2 ⟨he, by simp [hk, hs, hc]⟩, by simp [hs, hd]⟩

/-- a round that clones removes a `move` edge out of a clone-if-necessary value, a round that reports adds a node to
    `reported`: the measure `2 * cloneableMoves g + (g.size - reported.length)` decreases. -/
theorem resolveLoop_fuel :
    ∀ (fuel : Nat) (g : Graph) (reported : List Nat) (ds : List OsDiag),
      g.wellFormed = true → reported.Nodup → (∀ x ∈ reported, x < g.size) →
      2 * cloneableMoves g + (g.size - reported.length) + 1 ≤ fuel →
      (∀ d ∈ ds, d ≠ .outOfFuel) → ∀ d ∈ (resolveLoop fuel g reported ds).2, d ≠ .outOfFuel := by
  intro fuel
  induction fuel with
  | zero =>
    intro g reported ds _ _ _ h
    omega
  | succ f ih =>
    intro g reported ds hwf hnd hb hf hds
    have hrl := nodup_bound_length hnd hb
    rcases resolveLoop_succ f g reported ds with
      ⟨_, e⟩ | ⟨n, b, hp, hm, hc, e⟩ | ⟨n0, bl0, hm0, _, e⟩
    · rw [e]
      exact hds
    · -- a clone: one cloneable move fewer, one node more
      rw [e]
      have hM := cloneableMoves_insertClone hwf hc hm
      apply ih _ reported ds (insertClone_wf hwf hp) hnd
      · intro x hx
        rw [size_insertClone]
        exact Nat.lt_succ_of_lt (hb x hx)
      · rw [size_insertClone]
        omega
      · exact hds
    · -- a report: one more node in `reported`, which stays duplicate-free and within the graph
      rw [e]
      have hg := findStalemate_genuine hm0
      have hnd' : (reported ++ [n0]).Nodup := nodup_snoc hnd hg.notIgnored
      have hb' := bound_snoc hb hg.lt
      have hrl' := nodup_bound_length hnd' hb'
      simp only [List.length_append, List.length_singleton] at hrl'
      apply ih g (reported ++ [n0]) _ hwf hnd' hb'
      · simp only [List.length_append, List.length_singleton]
        omega
      · intro d hd
        rcases List.mem_append.1 hd with hd | hd
        · exact hds d hd
        · rw [List.mem_singleton.1 hd]
          exact fun h => OsDiag.noConfusion h

theorem resolve_never_out_of_fuel {g : Graph} (hwf : g.wellFormed = true) :
    ∀ d ∈ (resolveStalemates g).2, d ≠ .outOfFuel := by
  unfold resolveStalemates resolveFuel
  apply resolveLoop_fuel _ g [] [] hwf List.nodup_nil (by simp)
  · have : cloneableMoves g ≤ g.edges.length := List.length_filter_le _ _
    simp only [List.length_nil]
    omega
  · simp

/-- every value that some node takes by value while another borrows it is Copy or may be cloned
    (what being "in class" means for the last pass). -/
def ContendedCloneable (g : Graph) : Prop :=
  ∀ p, p < g.size → (g.node p).copy = true ∨ (g.node p).cloneable = true ∨ g.consumers p = [] ∨ g.borrowers p = []

theorem contendedCloneable_insertClone {g : Graph} {b n : Nat} (hwf : g.wellFormed = true)
    (hb : b < g.size) (hc : (g.node b).cloneable = true) (h : ContendedCloneable g) :
    ContendedCloneable (insertClone g b n).1 := by
  intro p hp
  rw [size_insertClone] at hp
  by_cases hpn : p = g.size
  · -- the clone itself: nobody borrows it
    subst hpn
    refine Or.inr (Or.inr (Or.inr ?_))
    simp [borrowers, outEdges_insertClone_new g b n hwf hb]
  · have hp' : p < g.size := by omega
    rw [copy_insertClone_old g b n p hp', cloneable_insertClone_old g b n p hp']
    by_cases hpb : p = b
    · exact Or.inr (Or.inl (hpb ▸ hc))
    · simp only [borrowers]
      rw [consumers_insertClone_other g b n p hpb hp', outEdges_insertClone_other g b n p hpb hp']
      exact h p hp'

theorem genuine_cloneable {g : Graph} {ign : List Nat} {s : Nat × List Nat} (hwf : g.wellFormed = true)
    (hcf : captureFree g = true) (hcc : ContendedCloneable g) (hg : Genuine g ign s) :
    ∀ b ∈ s.2, (g.node b).cloneable = true := by
  intro b hb
  obtain ⟨hp, hcons, hcopy, hbor⟩ := hg.inputs b hb
  rcases hcc b (preds_lt hwf hp).1 with hcp | hcl | hnocons | hnobor
  · rw [hcopy] at hcp
    cases hcp
  · exact hcl
  · rw [hnocons] at hcons
    cases hcons
  · rw [allBorrowers_of_captureFree hcf, hnobor] at hbor
    exact absurd rfl hbor

theorem resolveLoop_inClass :
    ∀ (fuel : Nat) (g : Graph) (ds : List OsDiag), g.wellFormed = true → captureFree g = true →
      ContendedCloneable g → ∀ d ∈ (resolveLoop fuel g [] ds).2, d ∈ ds ∨ d = .outOfFuel := by
  intro fuel
  induction fuel with
  | zero =>
    intro g ds _ _ _ d hd
    simpa [resolveLoop] using hd
  | succ f ih =>
    intro g ds hwf hcf hcc
    rcases resolveLoop_succ f g [] ds with ⟨_, e⟩ | ⟨n, b, hp, _, hc, e⟩ | ⟨n0, bl0, hm0, hno, e⟩
    · rw [e]
      exact fun d hd => Or.inl hd
    · -- a clone: the graph stays in class
      rw [e]
      exact ih _ ds (insertClone_wf hwf hp) (captureFree_insertClone hcf b n)
        (contendedCloneable_insertClone hwf (preds_lt hwf hp).1 hc hcc)
    · -- no report: the reported node would have a contended input, and that input may be cloned
      have hg := findStalemate_genuine hm0
      obtain ⟨b0, hb0⟩ := List.exists_mem_of_ne_nil _ hg.ne_nil
      have := genuine_cloneable hwf hcf hcc hg b0 hb0
      rw [hno _ hm0 b0 hb0] at this
      cases this

/-- **C02 for the last pass**: a well-formed capture-free call graph in which every contended value is Copy or
    clone-if-necessary goes through `ordering_stalemates` without a diagnostic. -/
theorem resolve_inClass_silent {g : Graph} (hwf : g.wellFormed = true) (hcf : captureFree g = true)
    (hcc : ContendedCloneable g) : (resolveStalemates g).2 = [] := by
  unfold resolveStalemates
  refine List.eq_nil_iff_forall_not_mem.2 fun d hd => ?_
  rcases resolveLoop_inClass (resolveFuel g) g [] hwf hcf hcc d hd with h | h
  · cases h
  · exact resolve_never_out_of_fuel hwf d hd h

/-- **no illicit copies by the last pass**: whatever `resolveStalemates` adds to a call graph is a clone of a
    clone-if-necessary node, handed to one consumer. -/
theorem resolveLoop_onlyClones (g0 : Graph) :
    ∀ (fuel : Nat) (g : Graph) (reported : List Nat) (ds : List OsDiag), g.wellFormed = true → OnlyClones g0 g →
      OnlyClones g0 (resolveLoop fuel g reported ds).1 :=
  fun fuel g reported ds hwf h =>
    (resolveLoop_graph_inv (I := fun g => g.wellFormed = true ∧ OnlyClones g0 g)
      (fun _ _ _ h hp hc =>
        ⟨insertClone_wf h.1 hp, onlyClones_insertClone h.2 (preds_lt h.1 hp).1 hc⟩)
      fuel g reported ds ⟨hwf, h⟩).2

end Pxv.CG
