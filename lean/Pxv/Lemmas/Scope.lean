import Pxv.Model.Scope
/-! The per-scope table, the FIFO walk of `ConstructibleDb::get` on tree-shaped scope graphs, clone insertion: proofs
    behind `Thm/C04.lean`. The theorems `Walk.*` are C04 (1)–(4); `Thm/C04.lean` states them again under `Pxv.Scope`. -/
namespace Pxv.Scope

theorem find_insert (m : List (Nat × Ctor)) (c : Ctor) (ty : Nat) :
    (insert m c).find? (fun e => e.1 == ty) =
      if c.ty = ty then some (c.ty, c) else m.find? (fun e => e.1 == ty) := by
  by_cases h : c.ty = ty
  · simp [insert, h]
  · have hb : (c.ty == ty) = false := by simpa using h
    simp only [insert, List.find?_cons, hb, List.find?_filter, if_neg h]
    congr 1; funext a
    by_cases ha : a.1 = ty <;> simp [ha, Ne.symm h]

theorem find_foldl_insert (l : List (Nat × Ctor)) (m : List (Nat × Ctor)) (ty : Nat) :
    ((l.foldl (fun m r => insert m r.2) m).find? (fun e => e.1 == ty)).map (·.2) =
      (((l.filter (fun r => r.2.ty == ty)).getLast?).map (·.2)).or
        ((m.find? (fun e => e.1 == ty)).map (·.2)) := by
  induction l generalizing m with
  | nil => simp
  | cons r rest ih =>
    rw [List.foldl_cons, ih, find_insert, List.filter_cons]
    by_cases h : r.2.ty = ty
    · cases hl : (rest.filter (fun r' => r'.2.ty == ty)).getLast? <;>
        simp [h, List.getLast?_cons, hl]
    · simp [h]

/-- C04 (2), stated again as `Pxv.Scope.latest_wins` in Thm/C04.lean. -/
theorem Walk.latest_wins (regs : List (Nat × Ctor)) (s ty : Nat) :
    lookup regs s ty =
      ((regs.filter (fun r => r.1 == s && r.2.ty == ty)).getLast?).map (·.2) := by
  unfold lookup table
  rw [find_foldl_insert]
  simp [List.filter_filter, Bool.and_comm]

theorem lookup_append (regs extra : List (Nat × Ctor)) (s ty : Nat) (h : ∀ r ∈ extra, r.1 ≠ s) :
    lookup (regs ++ extra) s ty = lookup regs s ty := by
  have hnone : extra.filter (fun r => r.1 == s) = [] :=
    List.filter_eq_nil_iff.2 fun r hr => by simpa using h r hr
  rw [lookup, table, List.filter_append, hnone, List.append_nil]
  rfl

theorem lookup_none (regs : List (Nat × Ctor)) (s ty : Nat) (h : ∀ r ∈ regs, r.1 ≠ s) :
    lookup regs s ty = none := by
  have := lookup_append [] regs s ty h
  rwa [List.nil_append] at this

theorem lookup_own (regs : List (Nat × Ctor)) (sc : Nat) (l : List Ctor) (ty : Nat)
    (h : ∀ r ∈ regs, r.1 ≠ sc) :
    lookup (regs ++ l.map (fun c => (sc, c))) sc ty =
      (l.filter (fun c => c.ty == ty)).getLast? := by
  rw [Walk.latest_wins, List.filter_append]
  have h1 : regs.filter (fun r => r.1 == sc && r.2.ty == ty) = [] :=
    List.filter_eq_nil_iff.2 fun r hr => by simp [h r hr]
  rw [h1, List.nil_append, List.filter_map]
  have hcomp : ((fun r : Nat × Ctor => r.1 == sc && r.2.ty == ty) ∘ fun c => (sc, c)) =
      fun c => c.ty == ty := by
    funext c
    simp
  rw [hcomp, List.getLast?_map, Option.map_map]
  cases (l.filter (fun c => c.ty == ty)).getLast? <;> rfl

def firstHit (has : Nat → Option Ctor) : List Nat → Option Ctor
  | [] => none
  | s :: rest => match has s with
    | some c => some c
    | none => firstHit has rest

theorem firstHit_eq_findSome (has : Nat → Option Ctor) (l : List Nat) :
    firstHit has l = l.findSome? has := by
  induction l with
  | nil => rfl
  | cons s rest ih =>
    rw [firstHit, List.findSome?_cons, ih]
    cases has s <;> rfl

theorem firstHit_congr (has has' : Nat → Option Ctor) (l : List Nat)
    (h : ∀ k ∈ l, has k = has' k) : firstHit has l = firstHit has' l := by
  induction l with
  | nil => rfl
  | cons x xs ih =>
    simp only [firstHit]
    rw [h x (by simp), ih (fun k hk => h k (by simp [hk]))]

/-- ancestor-or-self chain of `s` as long as scopes have exactly one parent, `fuel` steps at most. -/
def chainF (parents : Nat → List Nat) : Nat → Nat → List Nat
  | 0, _ => []
  | f + 1, s => s :: match parents s with
    | [p] => chainF parents f p
    | _ => []

/-- the chain stops at a scope without parents (never at one with several) -/
def TreeFrom (parents : Nat → List Nat) : Nat → Nat → Prop
  | 0, _ => True
  | f + 1, s => match parents s with
    | [] => True
    | [p] => TreeFrom parents f p
    | _ => False

theorem treeFrom_iff (parents : Nat → List Nat) :
    ∀ f s, TreeFrom parents f s ↔ ∀ k ∈ chainF parents f s, (parents k).length ≤ 1 := by
  intro f
  induction f with
  | zero => simp [TreeFrom, chainF]
  | succ f ih =>
    intro s
    rw [TreeFrom, chainF]
    match hp : parents s with
    | [] => simp [hp]
    | [p] => simp [hp, ih p]
    | _ :: _ :: _ => simp [hp]

/-- on a single-parent chain the FIFO never holds more than one scope: the walk is the chain. -/
theorem bfs_chain (parents : Nat → List Nat) (has : Nat → Option Ctor) :
    ∀ fuel s, TreeFrom parents fuel s →
      bfs parents has fuel [s] = firstHit has (chainF parents fuel s) := by
  intro fuel
  induction fuel with
  | zero => intro s _; rfl
  | succ f ih =>
    intro s ht
    simp only [bfs, chainF, firstHit]
    cases has s with
    | some c => rfl
    | none =>
      rw [TreeFrom] at ht
      match hp : parents s with
      | [] => cases f <;> rfl
      | [p] => rw [hp] at ht; exact ih p ht
      | _ :: _ :: _ => rw [hp] at ht; exact ht.elim

def Decr (parents : Nat → List Nat) : Prop := ∀ s, ∀ p ∈ parents s, p < s

/-- with decreasing parents a chain from `s` has at most `s + 1` elements: more fuel changes nothing. -/
theorem chainF_stable (parents : Nat → List Nat) (hd : Decr parents) :
    ∀ s f, s + 1 ≤ f → chainF parents f s = chainF parents (s + 1) s := by
  intro s
  induction s using Nat.strongRecOn with
  | _ s ih =>
    intro f hf
    obtain ⟨f', rfl⟩ : ∃ f', f = f' + 1 := ⟨f - 1, by omega⟩
    simp only [chainF]
    congr 1
    match hp : parents s with
    | [p] =>
      have hlt : p < s := hd s p (by simp [hp])
      simp only
      rw [ih p hlt f' (Nat.le_trans hlt (Nat.le_of_succ_le_succ hf)), ih p hlt s hlt]
    | [] | _ :: _ :: _ => rfl

theorem chainF_le (par : Nat → List Nat) (hd : Decr par) : ∀ f s, ∀ k ∈ chainF par f s, k ≤ s := by
  intro f
  induction f with
  | zero => intro s k hk; cases hk
  | succ f ih =>
    intro s k hk
    rw [chainF, List.mem_cons] at hk
    rcases hk with rfl | hk
    · exact Nat.le_refl _
    · match hp : par s with
      | [p] =>
        rw [hp] at hk
        exact Nat.le_trans (ih p k hk) (Nat.le_of_lt (hd s p (by simp [hp])))
      | [] | _ :: _ :: _ => rw [hp] at hk; cases hk

/-- ancestor-or-self scopes of `s`, nearest first -/
def ancestors (g : SGraph) (s : Nat) : List Nat := chainF g.parents (s + 1) s

/-- every scope from `s` up to the root has at most one parent (true of every scope except the
    application-state scope) -/
def TreeAbove (g : SGraph) (s : Nat) : Prop := TreeFrom g.parents (s + 1) s

theorem treeAbove_iff (g : SGraph) (s : Nat) :
    TreeAbove g s ↔ ∀ k ∈ ancestors g s, (g.parents k).length ≤ 1 :=
  treeFrom_iff _ _ _

theorem ancestors_cons (g : SGraph) (s p : Nat) (hd : Decr g.parents) (hp : g.parents s = [p]) :
    ancestors g s = s :: ancestors g p := by
  have hlt : p < s := hd s p (by simp [hp])
  unfold ancestors
  rw [chainF]
  simp only [hp]
  rw [chainF_stable _ hd p s (by omega)]

theorem fuel_ge (g : SGraph) (s : Nat) (h : s ≤ g.app) : s + 1 ≤ g.fuel := by
  have := Nat.le_mul_self (g.app + 1)
  unfold SGraph.fuel; omega

/-- The walk of `ConstructibleDb::get`, whatever a scope is asked for (`has`): `get`, `getT` are instances. -/
theorem bfs_nearest (g : SGraph) (has : Nat → Option Ctor) (s : Nat)
    (hd : Decr g.parents) (hs : s ≤ g.app) (ht : TreeAbove g s) :
    bfs g.parents has g.fuel [s] = firstHit has (ancestors g s) := by
  have hc := chainF_stable _ hd s _ (fuel_ge g s hs)
  rw [ancestors, ← hc]
  apply bfs_chain
  rw [treeFrom_iff, hc]
  exact (treeAbove_iff g s).1 ht

theorem bfs_own (g : SGraph) (has : Nat → Option Ctor) (s : Nat) (c : Ctor) (h : has s = some c) :
    bfs g.parents has g.fuel [s] = some c := by
  simp [SGraph.fuel, bfs, h]

namespace Walk

/-- C04 (1), stated again as `Pxv.Scope.get_nearest` in Thm/C04.lean. -/
theorem get_nearest (g : SGraph) (regs : List (Nat × Ctor)) (s ty : Nat)
    (hd : Decr g.parents) (hs : s ≤ g.app) (ht : TreeAbove g s) :
    get g regs s ty = firstHit (fun k => lookup regs k ty) (ancestors g s) :=
  bfs_nearest g _ s hd hs ht

/-- C04 (1'), stated again as `Pxv.Scope.get_nearest_iff` in Thm/C04.lean. -/
theorem get_nearest_iff (g : SGraph) (regs : List (Nat × Ctor)) (s ty : Nat) (c : Ctor)
    (hd : Decr g.parents) (hs : s ≤ g.app) (ht : TreeAbove g s) :
    get g regs s ty = some c ↔
      ∃ pre a post, ancestors g s = pre ++ a :: post ∧ lookup regs a ty = some c ∧
        ∀ k ∈ pre, lookup regs k ty = none := by
  rw [get_nearest g regs s ty hd hs ht, firstHit_eq_findSome, List.findSome?_eq_some_iff]

/-- C04 (3), stated again as `Pxv.Scope.parent_inherited` in Thm/C04.lean. -/
theorem parent_inherited (g : SGraph) (regs : List (Nat × Ctor)) (s p ty : Nat)
    (hd : Decr g.parents) (hs : s ≤ g.app) (ht : TreeAbove g s)
    (hp : g.parents s = [p]) (hnone : lookup regs s ty = none) :
    get g regs s ty = get g regs p ty := by
  have hlt : p < s := hd s p (by simp [hp])
  have hanc := ancestors_cons g s p hd hp
  have htp : TreeAbove g p := (treeAbove_iff g p).2 fun k hk =>
    (treeAbove_iff g s).1 ht k (hanc ▸ List.mem_cons_of_mem _ hk)
  rw [get_nearest g regs s ty hd hs ht, get_nearest g regs p ty hd (by omega) htp, hanc,
    firstHit, hnone]

/-- C04 (3), second half, stated again as `Pxv.Scope.own_registration_wins` in Thm/C04.lean. -/
theorem own_registration_wins (g : SGraph) (regs : List (Nat × Ctor)) (s ty : Nat) (c : Ctor)
    (hown : lookup regs s ty = some c) : get g regs s ty = some c :=
  bfs_own g _ s c hown

/-- C04 (4), stated again as `Pxv.Scope.sibling_invisible` in Thm/C04.lean. -/
theorem sibling_invisible (g : SGraph) (regs extra : List (Nat × Ctor)) (s ty : Nat)
    (hd : Decr g.parents) (hs : s ≤ g.app) (ht : TreeAbove g s)
    (hout : ∀ r ∈ extra, r.1 ∉ ancestors g s) :
    get g (regs ++ extra) s ty = get g regs s ty := by
  rw [get_nearest g _ s ty hd hs ht, get_nearest g _ s ty hd hs ht]
  exact firstHit_congr _ _ _ fun k hk =>
    lookup_append regs extra k ty fun r hr hrk => hout r hr (hrk ▸ hk)

end Walk

open Pxv.CG Pxv.CG.Graph

/-- the node a clone is given is the default one, which is also what `node` answers out of range -/
theorem node_snoc (g : Graph) (es : List Edge) (i : Nat) :
    ({ nodes := g.nodes ++ [{}], edges := es } : Graph).node i = g.node i := by
  simp only [Graph.node, List.getD_eq_getElem?_getD, List.getElem?_append]
  split
  · rfl
  · rw [List.getElem?_eq_none (l := g.nodes) (by omega)]
    cases i - g.nodes.length <;> rfl

theorem lt_size_of_cloneable (g : Graph) (d : Nat) (h : (g.node d).cloneable = true) :
    d < g.size := by
  unfold Graph.node Graph.size at *
  by_cases hd : d < g.nodes.length
  · exact hd
  · simp [List.getD_eq_getElem?_getD, List.getElem?_eq_none (Nat.le_of_not_lt hd)] at h

theorem wf_iff {g : Graph} :
    g.wellFormed = true ↔ ∀ e ∈ g.edges, e.src < g.size ∧ e.dst < g.size := by
  simp [wellFormed]

/-- what a successful `tryClone cg d c` has done: `d` may be cloned and was moved into `c`; there is
    one node more, a default one, which borrows `d` and is moved into `c` in `d`'s place -/
structure Cloned (cg cg' : CGraph) (d c : Nat) : Prop where
  cloneable : (cg.g.node d).cloneable = true
  moved : (⟨d, c, .move⟩ : Edge) ∈ cg.g.edges
  size : cg'.g.size = cg.g.size + 1
  node : ∀ i, cg'.g.node i = cg.g.node i
  edges : cg'.g.edges =
    cg.g.edges.erase ⟨d, c, .move⟩ ++ [⟨d, cg.g.size, .shared⟩, ⟨cg.g.size, c, .move⟩]
  clones : cg'.clones = cg.clones ++ [(cg.g.size, d)]

theorem tryClone_some {cg cg' : CGraph} {d c : Nat} (h : tryClone cg d c = some cg') :
    Cloned cg cg' d c := by
  unfold tryClone at h
  split at h
  · rename_i hguard
    simp only [Bool.and_eq_true, List.contains_iff_mem] at hguard
    cases h
    exact
      { cloneable := hguard.1
        moved := hguard.2
        size := List.length_append
        node := node_snoc _ _
        edges := rfl
        clones := rfl }
  · cases h

theorem inEdges_tryClone {cg cg' : CGraph} {d c : Nat} (h : tryClone cg d c = some cg') {x : Nat}
    (hx : c ≠ x) :
    cg'.g.inEdges x =
      cg.g.inEdges x ++ if cg.g.size = x then [⟨d, cg.g.size, .shared⟩] else [] := by
  rw [inEdges, (tryClone_some h).edges, List.filter_append, ← List.erase_filter,
    List.erase_of_not_mem (by simp [hx]), inEdges]
  by_cases hk : cg.g.size = x <;> simp [hk, hx]

/-- clone nodes are what they should be: in range, and their only incoming edge is a shared borrow
    of the node they copy. -/
structure CloneInv (cg : CGraph) : Prop where
  wf : cg.g.wellFormed = true
  clones : ∀ kd ∈ cg.clones, kd.1 < cg.g.size ∧ cg.g.inEdges kd.1 = [⟨kd.2, kd.1, .shared⟩]

theorem tryClone_inv {cg cg' : CGraph} {d c : Nat} (h : tryClone cg d c = some cg')
    (hi : CloneInv cg) : CloneInv cg' := by
  have hcl := tryClone_some h
  have hlt := wf_iff.1 hi.wf
  have hdc : d < cg.g.size ∧ c < cg.g.size := hlt _ hcl.moved
  refine { wf := ?wf, clones := fun kd hkd => ?clones }
  case wf =>
    rw [wf_iff, hcl.edges, hcl.size]
    intro e hmem
    simp only [List.mem_append, List.mem_cons, List.not_mem_nil, or_false] at hmem
    rcases hmem with hold | rfl | rfl
    · have := hlt e (List.mem_of_mem_erase hold)
      exact ⟨Nat.lt_succ_of_lt this.1, Nat.lt_succ_of_lt this.2⟩
    · exact ⟨Nat.lt_succ_of_lt hdc.1, Nat.lt_succ_self _⟩
    · exact ⟨Nat.lt_succ_self _, Nat.lt_succ_of_lt hdc.2⟩
  case clones =>
    rw [hcl.clones, List.mem_append, List.mem_singleton] at hkd
    rw [hcl.size]
    rcases hkd with hold | rfl
    · obtain ⟨hklt, hin⟩ := hi.clones kd hold
      -- the consumer is not an older clone node: the edge taken from it is a move, a clone
      -- node's in-edge a borrow
      have hne : c ≠ kd.1 := by
        intro hceq
        have : (⟨d, c, .move⟩ : Edge) ∈ cg.g.inEdges kd.1 := by
          rw [← hceq]
          simp [inEdges, hcl.moved]
        simp [hin] at this
      rw [inEdges_tryClone h hne, hin, if_neg (Nat.ne_of_gt hklt)]
      exact ⟨Nat.lt_succ_of_lt hklt, rfl⟩
    · -- the new node had no edge before, and is not the consumer
      have hnone : cg.g.inEdges cg.g.size = [] :=
        List.filter_eq_nil_iff.2 fun e he' => by simpa using Nat.ne_of_lt (hlt e he').2
      rw [inEdges_tryClone h (Nat.ne_of_lt hdc.2), hnone]
      exact ⟨by simp, by simp⟩

theorem applyReqs_induct {I : CGraph → Prop}
    (step : ∀ {cg cg' : CGraph} {d c : Nat}, tryClone cg d c = some cg' → I cg → I cg') :
    ∀ (reqs : List (Nat × Nat)) (cg : CGraph), I cg → I (applyReqs cg reqs)
  | [], _, h => h
  | (d, c) :: rest, cg, h => by
    rw [applyReqs]
    cases ht : tryClone cg d c with
    | none => exact applyReqs_induct step rest cg h
    | some cg' => exact applyReqs_induct step rest cg' (step ht h)

theorem applyReqs_inv (reqs : List (Nat × Nat)) :
    ∀ cg, CloneInv cg → CloneInv (applyReqs cg reqs) :=
  applyReqs_induct tryClone_inv reqs

theorem applyReqs_origin (reqs : List (Nat × Nat)) : ∀ cg, ∀ kd ∈ (applyReqs cg reqs).clones,
    kd ∈ cg.clones ∨ ((cg.g.node kd.2).cloneable = true ∧ kd.2 < cg.g.size ∧ cg.g.size ≤ kd.1) := by
  intro cg
  -- the claim is the last part of an invariant that also says: along the run the graph only
  -- grows and keeps its nodes
  refine (applyReqs_induct
    (I := fun cg' => cg.g.size ≤ cg'.g.size ∧ (∀ i, cg'.g.node i = cg.g.node i) ∧
      ∀ kd ∈ cg'.clones, kd ∈ cg.clones ∨
        ((cg.g.node kd.2).cloneable = true ∧ kd.2 < cg.g.size ∧ cg.g.size ≤ kd.1))
    ?_ reqs cg ⟨Nat.le_refl _, fun _ => rfl, fun _ h => Or.inl h⟩).2.2
  intro cg1 cg2 d c ht ⟨hsz, hnode, hcl⟩
  have hstep := tryClone_some ht
  have hsize := hstep.size
  refine ⟨by omega, fun i => (hstep.node i).trans (hnode i), fun kd hkd => ?_⟩
  rw [hstep.clones, List.mem_append, List.mem_singleton] at hkd
  rcases hkd with hkd | rfl
  · exact hcl kd hkd
  · have hc : (cg.g.node d).cloneable = true := hnode d ▸ hstep.cloneable
    exact Or.inr ⟨hc, lt_size_of_cloneable _ _ hc, hsz⟩

end Pxv.Scope
