import Pxv.Lemmas.LifecyclePlan
/-! What the modelled pipeline delivers vs what the scopes designate (helpers for `Thm/C04.lean`). -/
namespace Pxv.Life
open Pxv.Scope

/-- every input of the component at position `ci`, when the pipeline delivers a value built by a constructor at all,
    was built by the constructor the component's own scope designates for that type -/
def faithfulAt (env : Env) (p : Plan) (ci : Nat) (cp : CompPlan) : Bool :=
  (cp.comp.ins.zip cp.args).all (fun x =>
    match p.ctorAt (p.origin ci x.2) with
    | some c => decide (env.get cp.comp.scope x.1.1 = some c)
    | none => true)

/-- every input of every handler and middleware of the pipeline is built by the designated constructor -/
def faithful (env : Env) (p : Plan) : Bool :=
  p.comps.zipIdx.all (fun x => faithfulAt env p x.2 x.1)

/-- the full-strength statement: whatever the scopes of the components designate -/
def injection_statement : Prop :=
  ∀ (env : Env) (tyOf : Nat → Option Nat) (chain : List Comp) (h : Comp),
    (plan env tyOf chain h).invariantsOk = true → faithful env (plan env tyOf chain h) = true

def wC0 : CDef := { uid := 0, ty := 0, life := .request }
def wC0b : CDef := { uid := 100, ty := 0, life := .request }
/-- root: `c0`, wrap `m0` (scope 1); nested blueprint: `c0b` overrides T0, post `m1(&T0)` (scope 4),
    route `h0(&T0)` (scope 5) -/
def wEnv : Env := { get := fun s t => if t = 0 then (if s = 1 then some wC0 else some wC0b) else none, fuel := 3 }
def wChain : List Comp := [⟨.noop, 0, 5, []⟩, ⟨.wrap, 0, 1, []⟩, ⟨.post, 1, 4, [(0, .ref)]⟩]
def wH : Comp := ⟨.handler, 0, 5, [(0, .ref)]⟩

theorem zipFields_mem (fs : List (Nat × Mode)) (ss : List Src) (t : Nat) (s : Src)
    (h : (t, s) ∈ zipFields fs ss) : ∃ (j : Nat) (m : Mode), fs[j]? = some (t, m) ∧ ss[j]? = some s := by
  induction fs, ss using zipFields.induct with
  | case1 t0 m0 fs s0 ss ih =>
    simp only [zipFields, List.mem_cons, Prod.mk.injEq] at h
    rcases h with ⟨rfl, rfl⟩ | h
    · exact ⟨0, m0, rfl, rfl⟩
    · obtain ⟨j, m, h1, h2⟩ := ih h
      exact ⟨j + 1, m, h1, h2⟩
  | case2 fs ss hne =>
    rw [zipFields] at h
    · cases h
    · exact hne

/-- what a recorded component knows about its sources, in a scope that resolves like `lk` -/
structure PlanOk (lk : Nat → Option CDef) (cp : CompPlan) : Prop where
  args : ∀ (j : Nat) (inp : Nat × Mode) (s : Src), cp.comp.ins[j]? = some inp → cp.args[j]? = some s →
    Ans lk cp.cl inp.1 s
  next : ∀ t s, (t, s) ∈ cp.nextArgs → Ans lk cp.cl t s

theorem mkPlan_ok (env : Env) (ba : List (Nat × Nat)) (k : Nat) (next : Option (List (Nat × Mode))) (c : Comp)
    (lk : Nat → Option CDef) (hu : UidInj lk) (hlk : env.get c.scope = lk) : PlanOk lk (mkPlan env ba k next c) := by
  unfold mkPlan
  simp only
  rw [hlk]
  generalize (ba.filter (fun b => b.2 < k)).map (·.1) = pre
  generalize (if c.isWrapping then next.getD [] else []) = extra
  have hans := foldRes_ans lk hu pre .request env.fuel (c.ins ++ extra) {} (fun _ h => nomatch h)
  -- the first `c.ins.length` answers are the arguments, the others fill the fields of `Next`
  constructor
  · intro j inp s hj hs
    simp only [List.getElem?_take] at hs
    split at hs
    · rename_i hlt
      refine hans j inp s ?_ hs
      rw [List.getElem?_append_left hlt]
      exact hj
    · cases hs
  · intro t s hts
    obtain ⟨j, m, h1, h2⟩ := zipFields_mem _ _ t s hts
    simp only [List.getElem?_drop] at h2
    refine hans (c.ins.length + j) (t, m) s ?_ h2
    rw [List.getElem?_append_right (by omega)]
    simpa using h1

theorem plan_ok (env : Env) (tyOf : Nat → Option Nat) (chain : List Comp) (h : Comp)
    (lk : Nat → Option CDef) (hu : UidInj lk) (hun : Uniform env lk chain h) :
    ∀ cp ∈ (plan env tyOf chain h).comps, PlanOk lk cp ∧ env.get cp.comp.scope = lk := by
  intro cp hcp
  obtain ⟨hkc, next, hmk⟩ := plan_mem env tyOf chain h cp hcp
  have hlk := (uniformStages_of_uniform hun).get hkc
  rw [hmk]
  exact ⟨mkPlan_ok env _ _ next _ lk hu hlk, hlk⟩

/-- a value that travelled through `Next` states was built by the constructor designated for its type -/
theorem originOfParam_ok (p : Plan) (lk : Nat → Option CDef) (hok : ∀ cp ∈ p.comps, PlanOk lk cp) :
    ∀ k ty w i, p.originOfParam k ty = .node w i →
      ∃ wp n, p.comps[w]? = some wp ∧ wp.cl.nodes[i]? = some n ∧ lk ty = some n.ctor := by
  intro k
  induction k with
  | zero =>
    intro ty w i h
    cases h
  | succ k ih =>
    intro ty w i h
    simp only [Plan.originOfParam] at h
    -- the wrapping middleware of stage `k`, its plan, the field of type `ty` of its `Next` state
    cases hw : p.wrapperOf k with
    | none => rw [hw] at h; cases h
    | some w0 =>
      rw [hw] at h
      dsimp only at h
      cases hwp : p.comps[w0]? with
      | none => rw [hwp] at h; cases h
      | some wp =>
        rw [hwp] at h
        dsimp only at h
        cases hfind : wp.nextArgs.find? (fun a => a.1 == ty) with
        | none => rw [hfind] at h; cases h
        | some a =>
          obtain ⟨t0, s⟩ := a
          rw [hfind] at h
          obtain rfl : t0 = ty := by simpa using List.find?_some hfind
          have hans : Ans lk wp.cl t0 s :=
            (hok wp (List.mem_of_getElem? hwp)).next _ _ (List.mem_of_find?_eq_some hfind)
          cases s with
          | built i0 =>
            -- built by the wrapping middleware itself
            cases h
            obtain ⟨n, hn1, hn2⟩ := hans
            exact ⟨wp, n, hwp, hn1, hn2⟩
          | param t1 =>
            -- handed on from an earlier stage, under the same type
            cases hans
            exact ih _ w i h

end Pxv.Life
