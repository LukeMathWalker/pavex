import Pxv.Model.Scope
/-! The cross-middleware cloning pass of a stage (pipeline.rs step 4): the table `collectAll` builds is sound, complete,
    ordered and keyed uniquely; what `consumersOf` leaves out; the fold of `stageCloning`. -/
namespace Pxv.Scope

theorem mem_updInfo_of_mem {m : List (Nat × CloningInfo)} {ty : Nat}
    {f : CloningInfo → CloningInfo} {e0 : Nat × CloningInfo} (h : e0 ∈ m) :
    (if e0.1 == ty then (e0.1, f e0.2) else e0) ∈ updInfo m ty f :=
  List.mem_map.mpr ⟨e0, h, rfl⟩

theorem mem_updInfo {m : List (Nat × CloningInfo)} {ty : Nat} {f : CloningInfo → CloningInfo}
    {e : Nat × CloningInfo} (h : e ∈ updInfo m ty f) :
    ∃ e0 ∈ m, e.1 = e0.1 ∧
      ((e0.1 ≠ ty ∧ e.2 = e0.2) ∨ (e0.1 = ty ∧ e.2 = f e0.2)) := by
  obtain ⟨e0, he0, rfl⟩ := List.mem_map.1 h
  refine ⟨e0, he0, ?_⟩
  by_cases hc : e0.1 = ty <;> simp [hc]

theorem updInfo_uniq {m : List (Nat × CloningInfo)} {ty : Nat} {f : CloningInfo → CloningInfo}
    (h : ∀ e ∈ m, ∀ e' ∈ m, e.1 = e'.1 → e = e') :
    ∀ e ∈ updInfo m ty f, ∀ e' ∈ updInfo m ty f, e.1 = e'.1 → e = e' := by
  intro e he e' he' hk
  obtain ⟨e0, he0, rfl⟩ := List.mem_map.1 he
  obtain ⟨e0', he0', rfl⟩ := List.mem_map.1 he'
  have a : ∀ x : Nat × CloningInfo, (if x.1 == ty then (x.1, f x.2) else x).1 = x.1 :=
    fun x => by split <;> rfl
  rw [h e0 he0 e0' he0' (by rw [← a e0, ← a e0', hk])]

theorem updInfo_of_not_mem {m : List (Nat × CloningInfo)} {ty : Nat}
    (f : CloningInfo → CloningInfo) (h : ∀ e ∈ m, e.1 ≠ ty) : updInfo m ty f = m := by
  rw [updInfo, List.map_congr_left (g := id) fun e he => by simp [h e he], List.map_id]

theorem updInfo_append (m m' : List (Nat × CloningInfo)) (ty : Nat)
    (f : CloningInfo → CloningInfo) :
    updInfo (m ++ m') ty f = updInfo m ty f ++ updInfo m' ty f := List.map_append

def withKey (m : List (Nat × CloningInfo)) (ty : Nat) (c : Bool) : List (Nat × CloningInfo) :=
  if m.any (fun e => e.1 == ty) then m else m ++ [(ty, { copy := c })]

theorem withKey_cases (m : List (Nat × CloningInfo)) (ty : Nat) (c : Bool) :
    (withKey m ty c = m ∧ ∃ e ∈ m, e.1 = ty) ∨
      (withKey m ty c = m ++ [(ty, { copy := c })] ∧ ∀ e ∈ m, e.1 ≠ ty) := by
  by_cases hany : m.any (fun e => e.1 == ty) = true
  · obtain ⟨e, he, hk⟩ := List.any_eq_true.1 hany
    exact Or.inl ⟨if_pos hany, e, he, beq_iff_eq.1 hk⟩
  · exact Or.inr ⟨if_neg hany, fun e he hk =>
      hany (List.any_eq_true.2 ⟨e, he, beq_iff_eq.2 hk⟩)⟩

theorem mem_withKey (m : List (Nat × CloningInfo)) (ty : Nat) (c : Bool) :
    ∃ e ∈ withKey m ty c, e.1 = ty := by
  rcases withKey_cases m ty c with ⟨h, hex⟩ | ⟨h, _⟩ <;> rw [h]
  · exact hex
  · exact ⟨_, List.mem_append_right _ (List.mem_singleton.2 rfl), rfl⟩

/-- what `collect` does with one input of middleware `k`: a reference is recorded by the entry of its type if there is
    one; a by-value input makes sure its type has an entry and is recorded in it -/
def collect1 (m : List (Nat × CloningInfo)) (k : Nat) (i : StageInput) :
    List (Nat × CloningInfo) :=
  if i.byRef then updInfo m i.ty (fun ci => { ci with refBy := ci.refBy ++ [k] })
  else updInfo (withKey m i.ty i.copy) i.ty
    (fun ci => { ci with consumedBy := ci.consumedBy ++ [(k, i.cloneable)] })

theorem collect_cons (m : List (Nat × CloningInfo)) (k : Nat) (i : StageInput)
    (rest : List StageInput) :
    collect m k (i :: rest) = collect (collect1 m k i) k rest := by
  rw [collect, collect1]
  congr 1
  cases i.byRef
  · simp only [Bool.false_eq_true, if_false, withKey]
    split
    · rfl
    · rename_i hany
      have hnone : ∀ e ∈ m, e.1 ≠ i.ty := fun e he hk =>
        hany (List.any_eq_true.2 ⟨e, he, beq_iff_eq.2 hk⟩)
      rw [updInfo_append, updInfo_of_not_mem _ hnone]
      simp [updInfo]
  · rfl

/-- what the table knows after the inputs `P` (pairs of middleware index and input) have been processed, the current
    middleware being number `k`. -/
structure Complete (P : Nat → StageInput → Prop) (m : List (Nat × CloningInfo)) (k : Nat) : Prop where
  idx : ∀ i inp, P i inp → i ≤ k
  vals : ∀ i inp, P i inp → inp.byRef = false → ∃ e ∈ m, e.1 = inp.ty ∧ ∃ c, (i, c) ∈ e.2.consumedBy
  refs : ∀ e ∈ m, ∀ ic ∈ e.2.consumedBy, ∀ j inp, P j inp → ic.1 < j → inp.ty = e.1 → inp.byRef = true →
    j ∈ e.2.refBy
  bound : ∀ e ∈ m, (∀ ic ∈ e.2.consumedBy, ic.1 ≤ k) ∧ (∀ j ∈ e.2.refBy, j ≤ k)
  sorted : ∀ e ∈ m, (e.2.consumedBy.map (·.1)).Pairwise (· ≤ ·) ∧ e.2.refBy.Pairwise (· ≤ ·)
  uniq : ∀ e ∈ m, ∀ e' ∈ m, e.1 = e'.1 → e = e'

theorem complete_empty : Complete (fun _ _ => False) [] 0 where
  idx := fun _ _ hp => hp.elim
  vals := fun _ _ hp => hp.elim
  refs := fun _ he => (by cases he)
  bound := fun _ he => (by cases he)
  sorted := fun _ he => (by cases he)
  uniq := fun _ he => (by cases he)

theorem complete_next {P : Nat → StageInput → Prop} {m : List (Nat × CloningInfo)} {k : Nat}
    (h : Complete P m k) : Complete P m (k + 1) where
  idx := fun i inp hp => Nat.le_succ_of_le (h.idx i inp hp)
  vals := h.vals
  refs := h.refs
  bound := fun e he =>
    ⟨fun ic hic => Nat.le_succ_of_le ((h.bound e he).1 ic hic),
     fun j hj => Nat.le_succ_of_le ((h.bound e he).2 j hj)⟩
  sorted := h.sorted
  uniq := h.uniq

theorem pairwise_snoc {l : List Nat} {k : Nat} (h : l.Pairwise (· ≤ ·))
    (hb : ∀ x ∈ l, x ≤ k) :
    (l ++ [k]).Pairwise (· ≤ ·) :=
  List.pairwise_append.2
    ⟨h, List.pairwise_singleton _ _, fun a ha _ hb' => List.mem_singleton.1 hb' ▸ hb a ha⟩

theorem Complete.withKey {P : Nat → StageInput → Prop} {m : List (Nat × CloningInfo)} {k : Nat}
    (h : Complete P m k) (ty : Nat) (c : Bool) : Complete P (withKey m ty c) k := by
  rcases withKey_cases m ty c with ⟨heq, _⟩ | ⟨heq, hnew⟩ <;> rw [heq]
  · exact h
  -- a new entry, which has recorded nothing yet
  have split : ∀ {e : Nat × CloningInfo}, e ∈ m ++ [(ty, { copy := c })] →
      e ∈ m ∨ e = (ty, { copy := c }) :=
    fun he => by simpa using he
  refine { idx := h.idx, vals := fun i inp hp hv => ?vals, refs := fun e he => ?refs,
           bound := fun e he => ?bound, sorted := fun e he => ?sorted,
           uniq := fun e he e' he' hk => ?uniq }
  case vals =>
    obtain ⟨e, he, r⟩ := h.vals i inp hp hv
    exact ⟨e, List.mem_append_left _ he, r⟩
  case refs =>
    rcases split he with he | rfl
    · exact h.refs e he
    · intro ic hic; cases hic
  case bound =>
    rcases split he with he | rfl
    · exact h.bound e he
    · exact ⟨nofun, nofun⟩
  case sorted =>
    rcases split he with he | rfl
    · exact h.sorted e he
    · exact ⟨List.Pairwise.nil, List.Pairwise.nil⟩
  case uniq =>
    rcases split he with he | rfl
    · rcases split he' with he' | rfl
      · exact h.uniq e he e' he' hk
      · exact absurd hk (hnew e he)
    · rcases split he' with he' | rfl
      · exact absurd hk.symm (hnew e' he')
      · rfl

theorem idx_step {P : Nat → StageInput → Prop} {m : List (Nat × CloningInfo)} {k : Nat}
    (h : Complete P m k) (i0 : StageInput) :
    ∀ i inp, (P i inp ∨ (i = k ∧ inp = i0)) → i ≤ k := by
  rintro i inp (hp | ⟨rfl, _⟩)
  · exact h.idx i inp hp
  · exact Nat.le_refl _

theorem Complete.ref {P : Nat → StageInput → Prop} {m : List (Nat × CloningInfo)} {k : Nat}
    (h : Complete P m k) {i0 : StageInput} (hr : i0.byRef = true) :
    Complete (fun i inp => P i inp ∨ (i = k ∧ inp = i0))
      (updInfo m i0.ty (fun ci => { ci with refBy := ci.refBy ++ [k] })) k where
  idx := idx_step h i0
  uniq := updInfo_uniq h.uniq
  vals := by
    rintro i inp (hp | ⟨rfl, rfl⟩) hv
    · obtain ⟨e, he, hk, c, hc⟩ := h.vals i inp hp hv
      exact ⟨_, mem_updInfo_of_mem he, by split <;> exact hk, c, by split <;> exact hc⟩
    · rw [hr] at hv; cases hv
  refs := by
    intro e he ic hic j inp hp hlt hty hbr
    obtain ⟨e0, he0, hkey, hcase⟩ := mem_updInfo he
    have hty0 : inp.ty = e0.1 := hty.trans hkey
    rcases hcase with ⟨hne, h2⟩ | ⟨_, h2⟩
    · -- an entry of another type is as it was, and the new input is not of its type
      rw [h2] at hic ⊢
      rcases hp with hp | ⟨_, rfl⟩
      · exact h.refs e0 he0 ic hic j inp hp hlt hty0 hbr
      · exact absurd hty0.symm hne
    · -- the entry of the type of `i0` keeps its references and gains `k`, as `i0` requires
      rw [h2] at hic ⊢
      rcases hp with hp | ⟨rfl, _⟩
      · exact List.mem_append_left _ (h.refs e0 he0 ic hic j inp hp hlt hty0 hbr)
      · exact List.mem_append_right _ (List.mem_singleton.2 rfl)
  bound := by
    intro e he
    obtain ⟨e0, he0, _, ⟨_, h2⟩ | ⟨_, h2⟩⟩ := mem_updInfo he <;> rw [h2]
    · exact h.bound e0 he0
    · refine ⟨(h.bound e0 he0).1, fun j hj => ?_⟩
      rcases List.mem_append.1 hj with hj | hj
      · exact (h.bound e0 he0).2 j hj
      · exact Nat.le_of_eq (List.mem_singleton.1 hj)
  sorted := by
    intro e he
    obtain ⟨e0, he0, _, ⟨_, h2⟩ | ⟨_, h2⟩⟩ := mem_updInfo he <;> rw [h2]
    · exact h.sorted e0 he0
    · exact ⟨(h.sorted e0 he0).1, pairwise_snoc (h.sorted e0 he0).2 (h.bound e0 he0).2⟩

theorem Complete.val {P : Nat → StageInput → Prop} {m : List (Nat × CloningInfo)} {k : Nat}
    (h : Complete P m k) {i0 : StageInput} (hv0 : i0.byRef = false)
    (hex : ∃ e ∈ m, e.1 = i0.ty) :
    Complete (fun i inp => P i inp ∨ (i = k ∧ inp = i0))
      (updInfo m i0.ty
        (fun ci => { ci with consumedBy := ci.consumedBy ++ [(k, i0.cloneable)] })) k where
  idx := idx_step h i0
  uniq := updInfo_uniq h.uniq
  vals := by
    rintro i inp (hp | ⟨rfl, rfl⟩) hv
    · obtain ⟨e, he, hk, c, hc⟩ := h.vals i inp hp hv
      refine ⟨_, mem_updInfo_of_mem he, by split <;> exact hk, c, ?_⟩
      split
      · exact List.mem_append_left _ hc
      · exact hc
    · obtain ⟨ex, hex, hk⟩ := hex
      exact ⟨_, mem_updInfo_of_mem hex, by split <;> exact hk, inp.cloneable, by simp [hk]⟩
  refs := by
    intro e he ic hic j inp hp hlt hty hbr
    -- the new input is no reference, and nothing comes after middleware `k`
    have hp' : P j inp := hp.resolve_right fun hn => by rw [hn.2, hv0] at hbr; cases hbr
    have hjk : j ≤ k := idx_step h i0 j inp hp
    obtain ⟨e0, he0, hkey, ⟨_, h2⟩ | ⟨_, h2⟩⟩ := mem_updInfo he <;> rw [h2] at hic ⊢
    · exact h.refs e0 he0 ic hic j inp hp' hlt (hty.trans hkey) hbr
    · rcases List.mem_append.1 hic with hic | hic
      · exact h.refs e0 he0 ic hic j inp hp' hlt (hty.trans hkey) hbr
      · cases List.mem_singleton.1 hic
        exact absurd hlt (Nat.not_lt.2 hjk)
  bound := by
    intro e he
    obtain ⟨e0, he0, _, ⟨_, h2⟩ | ⟨_, h2⟩⟩ := mem_updInfo he <;> rw [h2]
    · exact h.bound e0 he0
    · refine ⟨fun ic hic => ?_, (h.bound e0 he0).2⟩
      rcases List.mem_append.1 hic with hic | hic
      · exact (h.bound e0 he0).1 ic hic
      · exact Nat.le_of_eq (congrArg Prod.fst (List.mem_singleton.1 hic))
  sorted := by
    intro e he
    obtain ⟨e0, he0, _, ⟨_, h2⟩ | ⟨_, h2⟩⟩ := mem_updInfo he <;> rw [h2]
    · exact h.sorted e0 he0
    · refine ⟨?_, (h.sorted e0 he0).2⟩
      rw [List.map_append]
      exact pairwise_snoc (h.sorted e0 he0).1 fun x hx => by
        obtain ⟨ic, hic, rfl⟩ := List.mem_map.1 hx
        exact (h.bound e0 he0).1 ic hic

theorem collect_step_complete {P : Nat → StageInput → Prop} {m : List (Nat × CloningInfo)}
    {k : Nat} (i0 : StageInput) (h : Complete P m k) :
    Complete (fun i inp => P i inp ∨ (i = k ∧ inp = i0)) (collect1 m k i0) k := by
  by_cases hr : i0.byRef = true
  · rw [collect1, if_pos hr]
    exact h.ref hr
  · rw [collect1, if_neg hr]
    exact (h.withKey _ _).val (Bool.eq_false_iff.2 hr) (mem_withKey _ _ _)

/-- every recorded by-value use is one of the inputs processed -/
def Sound (P : Nat → StageInput → Prop) (m : List (Nat × CloningInfo)) : Prop :=
  ∀ e ∈ m, ∀ ic ∈ e.2.consumedBy,
    ∃ inp, P ic.1 inp ∧ inp.ty = e.1 ∧ inp.byRef = false ∧ inp.cloneable = ic.2

theorem Sound.withKey {P : Nat → StageInput → Prop} {m : List (Nat × CloningInfo)}
    (h : Sound P m) (ty : Nat) (c : Bool) :
    Sound P (withKey m ty c) := by
  rcases withKey_cases m ty c with ⟨heq, _⟩ | ⟨heq, _⟩ <;> rw [heq]
  · exact h
  · intro e he
    rcases List.mem_append.1 he with he | he
    · exact h e he
    · cases List.mem_singleton.1 he
      intro ic hic; cases hic

theorem Sound.upd {P : Nat → StageInput → Prop} {m : List (Nat × CloningInfo)} {k : Nat}
    (h : Sound P m) (i0 : StageInput) {f : CloningInfo → CloningInfo}
    (hf : ∀ ci, ∀ ic ∈ (f ci).consumedBy,
      ic ∈ ci.consumedBy ∨ (i0.byRef = false ∧ ic = (k, i0.cloneable))) :
    Sound (fun i inp => P i inp ∨ (i = k ∧ inp = i0)) (updInfo m i0.ty f) := by
  intro e he ic hic
  obtain ⟨e0, he0, h1, h2⟩ := mem_updInfo he
  have hold : ic ∈ e0.2.consumedBy →
      ∃ inp, (P ic.1 inp ∨ (ic.1 = k ∧ inp = i0)) ∧ inp.ty = e.1 ∧
        inp.byRef = false ∧ inp.cloneable = ic.2 := by
    intro hic
    obtain ⟨inp, hp, r⟩ := h e0 he0 ic hic
    exact ⟨inp, Or.inl hp, h1 ▸ r⟩
  rcases h2 with ⟨_, h2⟩ | ⟨h3, h2⟩ <;> rw [h2] at hic
  · exact hold hic
  · rcases hf _ ic hic with hic | ⟨hv, rfl⟩
    · exact hold hic
    · exact ⟨i0, Or.inr ⟨rfl, rfl⟩, (h1.trans h3).symm, hv, rfl⟩

theorem collect_step_sound {P : Nat → StageInput → Prop} {m : List (Nat × CloningInfo)}
    {k : Nat} (i0 : StageInput) (h : Sound P m) :
    Sound (fun i inp => P i inp ∨ (i = k ∧ inp = i0)) (collect1 m k i0) := by
  by_cases hr : i0.byRef = true
  · rw [collect1, if_pos hr]
    exact h.upd i0 fun _ _ hic => Or.inl hic
  · rw [collect1, if_neg hr]
    exact (h.withKey _ _).upd i0 fun _ _ hic =>
      (List.mem_append.1 hic).imp_right fun hnew =>
        ⟨Bool.eq_false_iff.2 hr, List.mem_singleton.1 hnew⟩

/-- An invariant `I P m k` of the table (`P`: the inputs processed, `k`: the current middleware) that survives one
    input and the step to the next middleware survives `collectAll`. -/
theorem collectAll_induct
    {I : (Nat → StageInput → Prop) → List (Nat × CloningInfo) → Nat → Prop}
    (step : ∀ {P : Nat → StageInput → Prop} {m : List (Nat × CloningInfo)} {k : Nat}
      (i0 : StageInput), I P m k →
      I (fun i inp => P i inp ∨ (i = k ∧ inp = i0)) (collect1 m k i0) k)
    (next : ∀ {P : Nat → StageInput → Prop} {m : List (Nat × CloningInfo)} {k : Nat},
      I P m k → I P m (k + 1)) :
    ∀ (rest : List (List StageInput)) (k : Nat) (P : Nat → StageInput → Prop)
      (m : List (Nat × CloningInfo)), I P m k →
      ∃ k', I (fun i inp => P i inp ∨ ∃ d mw, rest[d]? = some mw ∧ i = k + d ∧ inp ∈ mw)
        (collectAll m k rest) k' := by
  -- the set of processed inputs is rewritten along the way: equal predicates, by extensionality
  have congr : ∀ {P Q : Nat → StageInput → Prop} {m : List (Nat × CloningInfo)} {k : Nat},
      (∀ i inp, P i inp ↔ Q i inp) → I P m k → I Q m k :=
    fun hpq h => (funext fun i => funext fun inp => propext (hpq i inp) : _ = _) ▸ h
  have one : ∀ (ins : List StageInput) (k : Nat) (P : Nat → StageInput → Prop)
      (m : List (Nat × CloningInfo)), I P m k →
      I (fun i inp => P i inp ∨ (i = k ∧ inp ∈ ins)) (collect m k ins) k := by
    intro ins
    induction ins with
    | nil => intro k P m h; exact congr (by simp) h
    | cons i0 rest ih =>
      intro k P m h
      rw [collect_cons]
      exact congr (by simp [or_assoc, and_or_left]) (ih k _ _ (step i0 h))
  intro rest
  induction rest with
  | nil => intro k P m h; exact ⟨k, congr (by simp) h⟩
  | cons mw rest ih =>
    intro k P m h
    obtain ⟨k', hk'⟩ := ih (k + 1) _ _ (next (one mw k P m h))
    refine ⟨k', congr (fun i inp => ?_) hk'⟩
    rw [or_assoc]
    refine or_congr_right ⟨?_, ?_⟩
    · rintro (⟨rfl, hm⟩ | ⟨d, mw', hd, rfl, hm⟩)
      · exact ⟨0, mw, rfl, rfl, hm⟩
      · exact ⟨d + 1, mw', hd, by omega, hm⟩
    · rintro ⟨d, mw', hd, rfl, hm⟩
      cases d with
      | zero => cases hd; exact Or.inl ⟨rfl, hm⟩
      | succ d => exact Or.inr ⟨d, mw', hd, by omega, hm⟩

theorem collectAll_complete :
    ∀ (rest : List (List StageInput)) (k : Nat) (P : Nat → StageInput → Prop) (m : List (Nat × CloningInfo)),
      Complete P m k → (∀ i inp, P i inp → i < k) →
      ∃ k', Complete (fun i inp => P i inp ∨ ∃ d mw, rest[d]? = some mw ∧ i = k + d ∧ inp ∈ mw)
        (collectAll m k rest) k' :=
  fun rest k P m h _ =>
    collectAll_induct (I := Complete) collect_step_complete complete_next rest k P m h

theorem collectAll_sound (mws : List (List StageInput)) :
    Sound (fun i inp => inp ∈ (mws[i]?).getD []) (collectAll [] 0 mws) := by
  obtain ⟨_, h⟩ := collectAll_induct (I := fun P m _ => Sound P m) collect_step_sound id
    mws 0 (fun _ _ => False) [] (fun _ he => by cases he)
  intro e he ic hic
  obtain ⟨inp, hp | ⟨d, mw, hd, hi, hm⟩, r⟩ := h e he ic hic
  · exact hp.elim
  · have hin : inp ∈ (mws[ic.1]?).getD [] := by
      rw [hi, Nat.zero_add, hd]
      exact hm
    exact ⟨inp, hin, r⟩

theorem consumersOf_sub (ci : CloningInfo) : ∀ x ∈ consumersOf ci, x ∈ ci.consumedBy := by
  intro x hx
  unfold consumersOf at hx
  split at hx
  · split at hx
    · split at hx
      · exact List.dropLast_subset _ hx
      · exact hx
    · exact hx
  · exact List.dropLast_subset _ hx

/-- **what step 4 lets go without a clone**: a by-value consumer that `consumersOf` leaves out is the last one to take the
    value, and no recorded borrow comes after it. -/
theorem not_consumer_is_last {ci : CloningInfo} {ic : Nat × Bool}
    (hs : (ci.consumedBy.map (·.1)).Pairwise (· ≤ ·)) (hr : ci.refBy.Pairwise (· ≤ ·))
    (hic : ic ∈ ci.consumedBy) (hout : ic ∉ consumersOf ci) :
    (∀ ic' ∈ ci.consumedBy, ic'.1 ≤ ic.1) ∧ (∀ j ∈ ci.refBy, j < ic.1) := by
  obtain ⟨cs, rb, cp⟩ := ci
  -- the consumers are `ys ++ [last]`, and `ic` is `last` unless it is among those that get a clone
  obtain ⟨ys, last, h⟩ := (List.eq_nil_or_concat cs).resolve_left (List.ne_nil_of_mem hic)
  rw [List.concat_eq_append] at h
  subst h
  have hmax : ∀ ic' ∈ ys ++ [last], ic'.1 ≤ last.1 := by
    intro ic' h
    rcases List.mem_append.1 h with h | h
    · exact (List.pairwise_append.1 (List.map_append ▸ hs)).2.2 _
        (List.mem_map.2 ⟨ic', h, rfl⟩) _ (by simp)
    · cases List.mem_singleton.1 h; exact Nat.le_refl _
  have hlast : ic ∉ ys → ic = last := fun h => by simpa [h] using hic
  rcases List.eq_nil_or_concat rb with rfl | ⟨rs, r, rfl⟩
  · cases hlast (by simpa [consumersOf] using hout)
    exact ⟨hmax, by simp⟩
  · simp only [consumersOf, List.concat_eq_append, List.getLast?_concat,
      List.dropLast_concat] at hout
    split at hout
    · rename_i hlt
      cases hlast hout
      refine ⟨hmax, fun j hj => Nat.lt_of_le_of_lt ?_ hlt⟩
      rcases List.mem_append.1 (List.concat_eq_append ▸ hj) with h | h
      · exact (List.pairwise_append.1 (List.concat_eq_append ▸ hr)).2.2 _ h _ (by simp)
      · cases List.mem_singleton.1 h; exact Nat.le_refl _
    · exact absurd hic hout

theorem cloningFor_ok {ci : CloningInfo} {idxs : List Nat} (h : cloningFor ci = some (.ok idxs)) :
    ∀ i ∈ idxs, (i, true) ∈ ci.consumedBy := by
  unfold cloningFor at h
  split at h
  · cases h
  · split at h
    · cases h
    · split at h
      · cases h
      · rename_i hnone
        cases h
        intro i hi
        obtain ⟨x, hx, rfl⟩ := List.mem_map.1 hi
        have hx2 : x.2 = true := by simpa using List.find?_eq_none.1 hnone x hx
        exact hx2 ▸ consumersOf_sub ci x hx

def stageStep (acc : Except Nat (List (Nat × List Nat))) (e : Nat × CloningInfo) :
    Except Nat (List (Nat × List Nat)) :=
  match acc with
  | .error x => .error x
  | .ok t =>
    match cloningFor e.2 with
    | none => .ok t
    | some (.error i) => .error i
    | some (.ok idxs) => .ok (t ++ [(e.1, idxs)])

theorem stageCloning_eq (mws : List (List StageInput)) :
    stageCloning mws = (collectAll [] 0 mws).foldl stageStep (.ok []) := rfl

theorem foldl_stageStep_error (l : List (Nat × CloningInfo)) (x : Nat) :
    l.foldl stageStep (.error x) = .error x := by
  induction l with
  | nil => rfl
  | cons e rest ih => exact ih

theorem foldl_stageStep :
    ∀ (l : List (Nat × CloningInfo)) (t0 t : List (Nat × List Nat)),
      l.foldl stageStep (.ok t0) = .ok t →
      (∀ e ∈ l, ∀ i, cloningFor e.2 ≠ some (.error i)) ∧
        ∀ x, x ∈ t ↔
          x ∈ t0 ∨ ∃ e ∈ l, cloningFor e.2 = some (.ok x.2) ∧ e.1 = x.1 := by
  intro l
  induction l with
  | nil =>
    intro t0 t h
    cases h
    exact ⟨nofun, fun x => ⟨Or.inl, fun h => h.elim id nofun⟩⟩
  | cons e rest ih =>
    intro t0 t h
    rw [List.foldl_cons, stageStep] at h
    have hne : ∀ i, cloningFor e.2 ≠ some (.error i) := fun i hi => by
      rw [hi, foldl_stageStep_error] at h; cases h
    cases hc : cloningFor e.2 with
    | none =>
      rw [hc] at h
      obtain ⟨h1, h2⟩ := ih t0 t h
      refine ⟨List.forall_mem_cons.2 ⟨hc ▸ hne, h1⟩, fun x => ?_⟩
      simp only [h2 x, List.mem_cons, exists_eq_or_imp, hc, reduceCtorEq, false_and, false_or]
    | some r =>
      rw [hc] at h
      cases r with
      | error i => exact absurd hc (hne i)
      | ok idxs =>
        obtain ⟨h1, h2⟩ := ih _ t h
        refine ⟨List.forall_mem_cons.2 ⟨hc ▸ hne, h1⟩, fun x => ?_⟩
        simp only [h2 x, List.mem_append, List.mem_cons, List.not_mem_nil, or_false, or_assoc,
          exists_eq_or_imp, hc, Option.some.injEq, Except.ok.injEq]
        -- what is left: `x` is the new row exactly when its two components are those of the row
        exact or_congr_right (or_congr_left
          ⟨fun hx => hx ▸ ⟨rfl, rfl⟩, fun ⟨h3, h4⟩ => Prod.ext h4.symm h3.symm⟩)

theorem foldl_stageStep_ok (l : List (Nat × CloningInfo)) (t0 t : List (Nat × List Nat))
    (h : l.foldl stageStep (.ok t0) = .ok t) :
    (∀ x ∈ t0, x ∈ t) ∧
      ∀ e ∈ l, cloningFor e.2 = none ∨
        ∃ idxs, cloningFor e.2 = some (.ok idxs) ∧ (e.1, idxs) ∈ t := by
  obtain ⟨h1, h2⟩ := foldl_stageStep l t0 t h
  refine ⟨fun x hx => (h2 x).2 (Or.inl hx), fun e he => ?_⟩
  cases hc : cloningFor e.2 with
  | none => exact Or.inl rfl
  | some r =>
    cases r with
    | error i => exact absurd hc (h1 e he i)
    | ok idxs => exact Or.inr ⟨idxs, rfl, (h2 (e.1, idxs)).2 (Or.inr ⟨e, he, hc, rfl⟩)⟩

end Pxv.Scope
