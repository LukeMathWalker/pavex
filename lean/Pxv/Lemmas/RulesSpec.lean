import Pxv.Model.Rules
import Pxv.Lemmas.Rules
/-!
The declarative vocabulary of C08 (scope tree, "needs at any depth", route matching) and the helper
lemmas of `Pxv/Thm/C08.lean`: what the scope lookup answers, which components the analyses process, what the detectors
built on them report, and when `check` is empty.
-/
namespace Pxv.Rules

theorem lookupAux_eq (db : DB) (t : Nat) : ∀ (fuel s : Nat),
    db.lookupAux t fuel s = (db.ancAux fuel s).findSome? (fun a => db.ctorIn a t)
  | 0, _ => rfl
  | fuel + 1, s => by
    simp only [DB.lookupAux, DB.ancAux, List.findSome?_cons]
    cases db.ctorIn s t with
    | some c => rfl
    | none => by_cases hs : s = 0 <;> simp [hs, lookupAux_eq db t fuel]

theorem lookup_eq_findSome (db : DB) (s t : Nat) :
    db.lookup s t = (db.anc s).findSome? (fun a => db.ctorIn a t) := lookupAux_eq db t (s + 1) s

theorem ctorIn_some {db : DB} {s t c : Nat} (h : db.ctorIn s t = some c) :
    c < db.n ∧ (db.comp c).kind = .ctor ∧ (db.comp c).scope = s ∧ (db.comp c).out = t := by
  have h1 := List.find?_some h
  simp only [DB.isCtorFor, Bool.and_eq_true, beq_iff_eq] at h1
  obtain ⟨⟨hkind, hscope⟩, hout⟩ := h1
  exact ⟨List.mem_range.1 (List.mem_reverse.1 (List.mem_of_find?_eq_some h)), hkind, hscope, hout⟩

theorem ctorIn_ne_none {db : DB} {s t c : Nat} (hc : c < db.n) (h1 : (db.comp c).kind = .ctor)
    (h2 : (db.comp c).scope = s) (h3 : (db.comp c).out = t) : db.ctorIn s t ≠ none := by
  intro h
  have := List.find?_eq_none.1 h c (List.mem_reverse.2 (List.mem_range.2 hc))
  simp [DB.isCtorFor, h1, h2, h3] at this

theorem lookup_nearest {db : DB} {s t c : Nat} (h : db.lookup s t = some c) :
    ∃ l1 l2, db.anc s = l1 ++ (db.comp c).scope :: l2 ∧ ∀ a ∈ l1, db.ctorIn a t = none := by
  rw [lookup_eq_findSome, List.findSome?_eq_some_iff] at h
  obtain ⟨l1, a, l2, hl, ha, hnone⟩ := h
  have ⟨_, _, hscope, _⟩ := ctorIn_some ha
  exact ⟨l1, l2, hscope ▸ hl, hnone⟩

theorem lookup_some {db : DB} {s t c : Nat} (h : db.lookup s t = some c) :
    c < db.n ∧ (db.comp c).kind = .ctor ∧ (db.comp c).out = t ∧ (db.comp c).scope ∈ db.anc s := by
  rw [lookup_eq_findSome] at h
  obtain ⟨a, ha, hc⟩ := List.exists_of_findSome?_eq_some h
  have ⟨hlt, hkind, hscope, hout⟩ := ctorIn_some hc
  exact ⟨hlt, hkind, hout, hscope ▸ ha⟩

theorem lookup_none_iff (db : DB) (s t : Nat) :
    db.lookup s t = none ↔ ∀ a ∈ db.anc s, db.ctorIn a t = none := by
  rw [lookup_eq_findSome, List.findSome?_eq_none_iff]

/-- the ancestors of a scope in a well-formed scope tree. -/
inductive Anc (db : DB) : Nat → Nat → Prop
  | refl (s : Nat) : Anc db s s
  | up {a s : Nat} : s ≠ 0 → Anc db a (db.parentOf s) → Anc db a s

/-- scope ids are assigned in registration order: a parent has a smaller id than its children. -/
def DB.WFScopes (db : DB) : Prop := ∀ s, s ≠ 0 → db.parentOf s < s

theorem ancAux_spec (db : DB) (hwf : db.WFScopes) : ∀ (fuel s a : Nat), s < fuel →
    (a ∈ db.ancAux fuel s ↔ Anc db a s)
  | fuel + 1, s, a, hs => by
    have up (h0 : s ≠ 0) := ancAux_spec db hwf fuel (db.parentOf s) a (by have := hwf s h0; omega)
    rw [DB.ancAux, List.mem_cons]
    constructor
    · rintro (rfl | h)
      · exact .refl _
      · split at h
        · cases h
        · rename_i h0
          exact .up h0 ((up h0).1 h)
    · intro h
      cases h with
      | refl => exact .inl rfl
      | up h0 h =>
        rw [if_neg h0]
        exact .inr ((up h0).2 h)

theorem anc_spec (db : DB) (hwf : db.WFScopes) (s a : Nat) : a ∈ db.anc s ↔ Anc db a s :=
  ancAux_spec db hwf (s + 1) s a (Nat.lt_succ_self s)

theorem deps_lt {db : DB} {s i j : Nat} (h : j ∈ db.depsFrom s i) : j < db.n := by
  obtain ⟨x, _, hx⟩ := List.mem_filterMap.1 h
  exact (lookup_some hx).1

theorem mem_deps_iff {db : DB} {i j : Nat} :
    j ∈ db.deps i ↔ ∃ x ∈ (db.comp i).ins, db.lookup (db.comp i).scope x.ty = some j := List.mem_filterMap

/-- component `i` needs `j`, directly or through any number of injected constructors. -/
def DB.Needs (db : DB) (i j : Nat) : Prop := ReachN db.deps db.n i j

theorem DB.Needs.refl (db : DB) (i : Nat) : db.Needs i i := ReachN.refl i
theorem DB.Needs.step {db : DB} {i j k : Nat} (h : db.Needs i j) (hk : k ∈ db.deps j) : db.Needs i k :=
  ReachN.step h hk (deps_lt hk)

/-- a component that the compiler has to build code for: a handler, a middleware, an error
    observer, or a constructor one of them needs (at any depth). -/
def DB.Reachable (db : DB) (c : Nat) : Prop :=
  ∃ r, r < db.n ∧ (db.comp r).kind.isRoot = true ∧ db.Needs r c

theorem mem_roots {db : DB} {r : Nat} : r ∈ db.roots ↔ r < db.n ∧ (db.comp r).kind.isRoot = true := by
  simp [DB.roots, List.mem_filter, List.mem_range]

/-- **the worklist of `detect_missing_constructors` processes exactly these components.** -/
theorem mem_reach {db : DB} {c : Nat} : c ∈ db.reach ↔ db.Reachable c := by
  rw [DB.reach, mem_closure_iff]
  exact ⟨fun ⟨r, hr, _, h⟩ => ⟨r, (mem_roots.1 hr).1, (mem_roots.1 hr).2, h⟩,
    fun ⟨r, hn, hk, h⟩ => ⟨r, mem_roots.2 ⟨hn, hk⟩, hn, h⟩⟩

theorem reach_lt {db : DB} {i : Nat} (hi : db.Reachable i) : i < db.n :=
  have ⟨_, hr, _, hn⟩ := hi
  hn.lt hr

theorem reach_closed {db : DB} {i j : Nat} (hi : i ∈ db.reach) (hj : j ∈ db.deps i) :
    j ∈ db.reach :=
  have ⟨r, hr, hk, hn⟩ := mem_reach.1 hi
  mem_reach.2 ⟨r, hr, hk, hn.step hj⟩

theorem mem_succOf_depAdj {db : DB} {i j : Nat} :
    j ∈ succOf db.depAdj i ↔ i ∈ db.reach ∧ j ∈ db.deps i := by
  unfold succOf DB.depAdj
  by_cases hi : i < db.n
  · -- row `i` of the table holds `deps i` if `i` is reachable and is empty otherwise
    simp only [List.getD_eq_getElem?_getD, List.getElem?_map, List.getElem?_range hi,
      Option.map_some, Option.getD_some]
    by_cases hr : i ∈ db.reach
    · rw [if_pos (by simpa using hr)]
      exact ⟨fun h => ⟨hr, h⟩, fun h => h.2⟩
    · rw [if_neg (by simpa using hr)]
      exact ⟨fun h => (List.not_mem_nil h).elim, fun h => absurd h.1 hr⟩
  · -- there is no row `i`, and what is reachable is below `db.n`
    have hr : i ∉ db.reach := fun h => hi (reach_lt (mem_reach.1 h))
    simp [List.getD_eq_getElem?_getD, Nat.le_of_not_lt hi, hr]

/-- the table keeps the edges that leave a reachable component, and what such an edge leads to is
    reachable -/
theorem pathS_depAdj {db : DB} {a b : Nat} :
    PathS (succOf db.depAdj) a b ↔ a ∈ db.reach ∧ PathS db.deps a b := by
  constructor
  · intro h
    constructor
    · cases h with
      | single e => exact (mem_succOf_depAdj.1 e).1
      | cons e _ => exact (mem_succOf_depAdj.1 e).1
    · exact h.transfer (P := fun _ => True) (fun _ _ _ e => ⟨(mem_succOf_depAdj.1 e).2, trivial⟩)
        trivial
  · intro ⟨ha, h⟩
    exact h.transfer (P := (· ∈ db.reach))
      (fun _ _ hx e => ⟨mem_succOf_depAdj.2 ⟨hx, e⟩, reach_closed hx e⟩) ha

/-- **cycles**: one is reported iff a reachable component (transitively, through ≥ 1 injections) needs itself. -/
theorem cycles_ne_nil_iff (db : DB) : db.cycles ≠ [] ↔ ∃ c, db.Reachable c ∧ PathS db.deps c c := by
  rw [DB.cycles, Ne, List.map_eq_nil_iff, ← Ne, findCycles_ne_nil_iff]
  simp only [HasCycle, OnCycle, pathS_depAdj, mem_reach]

theorem mem_singletons {db : DB} {s : Nat} :
    s ∈ db.singletons ↔ s < db.n ∧ (db.comp s).life = .singleton ∧ (db.comp s).kind = .ctor := by
  simp [DB.singletons, List.mem_filter, List.mem_range]

theorem mem_requestDeps {db : DB} {i r : Nat} :
    r ∈ db.requestDeps i ↔ r ∈ db.deps i ∧ (db.comp r).life = .request := by
  simp [DB.requestDeps, List.mem_filter]

/-- `t` is reached from `s` through transient constructors only (`s` itself included). -/
def DB.ThroughTransients (db : DB) (s t : Nat) : Prop := ReachN db.transDeps db.n s t

theorem DB.ThroughTransients.step {db : DB} {s i j : Nat} (h : db.ThroughTransients s i)
    (hj : j ∈ db.deps i) (ht : (db.comp j).life = .transient) : db.ThroughTransients s j :=
  ReachN.step h (by simp [DB.transDeps, List.mem_filter, hj, ht]) (deps_lt hj)

/-- **singleton → request-scoped**: exactly the pairs of a singleton constructor and a request-scoped constructor it
    reaches through transient constructors only. -/
theorem mem_singletonDeps_iff {db : DB} {s r : Nat} : ⟨.singletonDep, s, r⟩ ∈ db.singletonDeps ↔
    s < db.n ∧ (db.comp s).life = .singleton ∧ (db.comp s).kind = .ctor ∧
    ∃ i, db.ThroughTransients s i ∧ r ∈ db.deps i ∧ (db.comp r).life = .request := by
  unfold DB.singletonDeps
  constructor
  · intro h
    obtain ⟨s', hs', h1⟩ := List.mem_flatMap.1 h
    obtain ⟨i, hi, h2⟩ := List.mem_flatMap.1 h1
    obtain ⟨r', hr', he⟩ := List.mem_map.1 h2
    obtain ⟨rfl, rfl⟩ : s' = s ∧ r' = r := by simpa using he
    have ⟨hs, hl, hk⟩ := mem_singletons.1 hs'
    -- the worklist started from `s'` alone
    obtain ⟨s0, hs0, _, hreach⟩ := mem_closure_iff.1 hi
    obtain rfl := List.mem_singleton.1 hs0
    have ⟨hr, hrl⟩ := mem_requestDeps.1 hr'
    exact ⟨hs, hl, hk, i, hreach, hr, hrl⟩
  · rintro ⟨hs, hl, hk, i, hi, hr, hrl⟩
    refine List.mem_flatMap.2 ⟨s, mem_singletons.2 ⟨hs, hl, hk⟩, ?_⟩
    refine List.mem_flatMap.2 ⟨i, mem_closure_iff.2 ⟨s, List.mem_singleton_self s, hs, hi⟩, ?_⟩
    exact List.mem_map.2 ⟨r, mem_requestDeps.2 ⟨hr, hrl⟩, rfl⟩

theorem mem_requestTime {db : DB} {i : Nat} (hi : db.Reachable i)
    (hrt : ¬ ((db.comp i).kind = .ctor ∧ (db.comp i).life = .singleton)) : i ∈ db.requestTime :=
  List.mem_filter.2
    ⟨mem_reach.2 hi, by simpa [-not_and, Classical.not_and_iff_not_or_not] using hrt⟩

theorem mem_runtimeSingletons {db : DB} {i c : Nat} (hi : db.Reachable i)
    (hrt : ¬ ((db.comp i).kind = .ctor ∧ (db.comp i).life = .singleton))
    (hc : c ∈ db.deps i) (hl : (db.comp c).life = .singleton) : c ∈ db.runtimeSingletons :=
  List.mem_eraseDups.2
    (List.mem_flatMap.2 ⟨i, mem_requestTime hi hrt, by simp [List.mem_filter, hc, hl]⟩)

/-- a detector that examines every input of every component of a list (`detectMissing`, `singletonByValue`) -/
theorem mem_perInput {db : DB} {l : List Nat} {f : Nat → Inp × Nat → Option Diag} {d : Diag} :
    d ∈ l.flatMap (fun i => (db.comp i).ins.zipIdx.filterMap (f i)) ↔
      ∃ i ∈ l, ∃ x k, (db.comp i).ins[k]? = some x ∧ f i (x, k) = some d := by
  simp only [List.mem_flatMap, List.mem_filterMap, Prod.exists, List.mem_zipIdx_iff_getElem?]

/-- what the observer `o` pulls in: its own inputs, and the inputs of every request-scoped/transient
    infallible constructor already pulled in — all looked up from the observer's blueprint. -/
inductive ObsNeeds (db : DB) (o : Nat) : Nat → Prop
  | direct {j : Nat} : j ∈ db.depsFrom (db.comp o).scope o → ObsNeeds db o j
  | through {i j : Nat} : ObsNeeds db o i → (db.comp i).life ≠ .singleton → (db.comp i).fallible = false →
      j ∈ db.depsFrom (db.comp o).scope i → ObsNeeds db o j

theorem ObsNeeds.reach {db : DB} {o c : Nat} (h : ObsNeeds db o c) : ReachN (db.obsSucc o) db.n o c := by
  induction h with
  | direct hj => exact .step (.refl o) (by simp [DB.obsSucc, hj]) (deps_lt hj)
  | through _ hl hf hj ih => exact .step ih (by simp [DB.obsSucc, hl, hf, hj]) (deps_lt hj)

/-- does a route template match a request path (given as its segments)? A literal matches itself, a
    parameter any one segment, a catch-all whatever is left (at least one segment). -/
def matchPath : List Seg → List Nat → Bool
  | [], [] => true
  | .lit a :: p, s :: r => a == s && matchPath p r
  | .param _ :: p, _ :: r => matchPath p r
  | .catchAll _ :: _, _ :: _ => true
  | _, _ => false

def Overlap (p q : List Seg) : Prop := ∃ req, matchPath p req = true ∧ matchPath q req = true

/-- two routes that can match the same request: a common method and overlapping templates -/
def RoutesOverlap (r1 r2 : Route) : Prop :=
  (∃ m, r1.accepts m = true ∧ r2.accepts m = true) ∧ Overlap r1.path r2.path

/-- a request matched by a template -/
def inst : List Seg → List Nat
  | [] => []
  | .lit a :: p => a :: inst p
  | .param _ :: p => 0 :: inst p
  | .catchAll _ :: _ => [0]

theorem matchPath_inst (p : List Seg) : matchPath p (inst p) = true := by
  induction p with
  | nil => rfl
  | cons a p ih => cases a <;> simp [inst, matchPath, ih]

theorem mem_paths {db : DB} {r : Route} (hr : r ∈ db.routes) : r.path ∈ db.paths :=
  List.mem_eraseDups.2 (List.mem_map.2 ⟨r, hr, rfl⟩)

theorem ite_isEmpty_eq_nil {α} (a b : List α) :
    (if a.isEmpty then b else a) = [] ↔ a = [] ∧ b = [] := by
  cases a <;> simp

theorem stage1_eq_nil_iff (db : DB) :
    db.stage1 = [] ↔ db.methodConflicts = [] ∧ db.pathConflicts = [] :=
  ite_isEmpty_eq_nil _ _

theorem stage3_eq_nil_iff (db : DB) : db.stage3 = [] ↔
    db.detectMissing = [] ∧ db.singletonAmbiguity = [] ∧ db.singletonDeps = [] ∧
      db.observerFallible = [] ∧ db.cloneNotClone = [] := by
  simp only [DB.stage3, List.append_eq_nil_iff, and_assoc]

theorem stage4_eq_nil_iff (db : DB) : db.stage4 = [] ↔
    db.cycles = [] ∧ db.pathParams = [] ∧ db.threadSafety = [] ∧ db.singletonByValue = [] := by
  simp only [DB.stage4, List.append_eq_nil_iff, and_assoc]

theorem check_eq_nil_iff (db : DB) :
    db.check = [] ↔ db.stage1 = [] ∧ db.stage2 = [] ∧ db.stage3 = [] ∧ db.stage4 = [] := by
  simp only [DB.check, Bool.not_eq_true', ← Bool.not_eq_true, ite_not, ite_isEmpty_eq_nil]

end Pxv.Rules
