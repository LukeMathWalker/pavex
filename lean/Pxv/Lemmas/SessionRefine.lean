import Pxv.Model.SessionSpec
import Pxv.Lemmas.Session
/-! The abstraction from the `Session` model to the pair-of-maps specification, the coherence
invariant between a session and the store, and the simulation (operations, requests, histories).
The store enters only through `absW`: each backend call is described once by what it does to the
abstract world, and the invariant after a `sync` is rebuilt from facts about that world. -/
set_option linter.unusedSectionVars false
namespace Pxv.Session
open Spec

variable {κ ν : Type} [DecidableEq κ]

/-- What the application sees of the server state cell. -/
def viewSrv : Option (Srv κ ν) → SSrv κ ν
  | none => .unseen
  | some (.unchanged st _) => .present st
  | some (.changed st) => .present st
  | some .doesNotExist => .absent
  | some .markedForDeletion => .deleted

/-- Forget the dirty markers and the TTL. -/
def abs (s : Sess κ ν) : SSess κ ν :=
  { id := s.id, cli := s.client.state, cliDirty := s.client.isUpdated, srv := viewSrv s.server, inv := s.invalidated }

/-- Forget TTLs and the operation log: which map is stored under which id. -/
def absW (w : World κ ν) : SWorld κ ν :=
  { recs := fun i => (Map.lookup w.store i).map (·.state), nextId := w.nextId }

/-- Coherence between the session of the current request and the store. -/
structure Inv (s : Sess κ ν) (w : World κ ν) : Prop where
  storeLt : ∀ i, Map.lookup w.store i ≠ none → i < w.nextId
  newLt : s.id.newId < w.nextId
  oldLt : ∀ o, s.id.oldId = some o → o < w.nextId
  renamedFresh : ∀ o n, s.id = .toBeRenamed o n → Map.lookup w.store n = none ∧ o ≠ n
  newFresh : ∀ n, s.id = .newlyGenerated n → Map.lookup w.store n = none ∧ s.server ≠ none
  unchangedOk : ∀ st t, s.server = some (.unchanged st t) →
    ∃ o r, s.id.oldId = some o ∧ Map.lookup w.store o = some r ∧ r.state = st
  dneOk : s.server = some .doesNotExist → ∀ o, s.id.oldId = some o → Map.lookup w.store o = none
  invOk : s.invalidated = true → s.server = some .markedForDeletion

theorem absW_recs (w : World κ ν) (i : Nat) : (absW w).recs i = (Map.lookup w.store i).map (·.state) := rfl

theorem recs_eq_none {w : World κ ν} {i : Nat} : (absW w).recs i = none ↔ Map.lookup w.store i = none :=
  Option.map_eq_none_iff

theorem recs_eq_some {w : World κ ν} {i : Nat} {st : Map κ ν} :
    (absW w).recs i = some st ↔ ∃ r, Map.lookup w.store i = some r ∧ r.state = st :=
  Option.map_eq_some_iff

@[simp] theorem logged_store (w : World κ ν) (e : LogE κ ν) : (w.logged e).store = w.store := rfl
@[simp] theorem logged_nextId (w : World κ ν) (e : LogE κ ν) : (w.logged e).nextId = w.nextId := rfl

@[simp] theorem absW_logged (w : World κ ν) (e : LogE κ ν) : absW (w.logged e) = absW w := rfl

@[simp] theorem absW_mk_eta (w : World κ ν) (log : List (LogE κ ν)) : absW ⟨w.store, w.nextId, log⟩ = absW w := rfl

theorem set_recs (W : SWorld κ ν) (id i : Nat) (v : Option (Map κ ν)) :
    (W.set id v).recs i = if id = i then v else W.recs i := rfl

@[simp] theorem set_nextId (W : SWorld κ ν) (i : Nat) (v : Option (Map κ ν)) : (W.set i v).nextId = W.nextId := rfl

@[simp] theorem unset_nextId (W : SWorld κ ν) (o : Option Nat) : (W.unset o).nextId = W.nextId := by
  cases o <;> rfl

theorem set_same (W : SWorld κ ν) (id : Nat) (v : Option (Map κ ν)) (h : W.recs id = v) : W.set id v = W := by
  subst h
  simp only [SWorld.set]
  congr 1
  funext i
  split
  · subst_vars
    rfl
  · rfl

theorem set_set (W : SWorld κ ν) (id : Nat) (u v : Option (Map κ ν)) : (W.set id u).set id v = W.set id v := by
  simp only [SWorld.set]
  congr 1
  funext i
  split <;> rfl

theorem set_none_recs {W : SWorld κ ν} {o n : Nat} (h : W.recs n = none) : (W.set o none).recs n = none := by
  rw [set_recs]
  split
  · rfl
  · exact h

theorem absW_insert (w : World κ ν) (id : Nat) (r : Rec κ ν) :
    absW { w with store := Map.insert w.store id r } = (absW w).set id (some r.state) := by
  simp only [absW, SWorld.set]
  congr 1
  funext i
  simp only [Map.lookup_insert]
  split <;> rfl

theorem absW_erase (w : World κ ν) (id : Nat) :
    absW { w with store := Map.erase w.store id } = (absW w).set id none := by
  simp only [absW, SWorld.set]
  congr 1
  funext i
  simp only [Map.lookup_erase]
  split <;> rfl

/-- Every id with a record was handed out by the counter. -/
def Bounded (W : SWorld κ ν) : Prop := ∀ i, W.recs i ≠ none → i < W.nextId

theorem Bounded.set {W : SWorld κ ν} (h : Bounded W) {id : Nat} {v : Option (Map κ ν)} (hv : v ≠ none → id < W.nextId) :
    Bounded (W.set id v) := by
  intro i hi
  rw [set_recs] at hi
  split at hi
  · subst_vars
    exact hv hi
  · exact h i hi

theorem Bounded.fresh {w : World κ ν} (h : Bounded (absW w)) : Map.lookup w.store w.nextId = none :=
  recs_eq_none.1 (Classical.byContradiction fun e => Nat.lt_irrefl _ (h _ e))

/-! The backend calls on the abstract world: one lemma per outcome that `sync` can meet. The world
after a successful call is known through `absW` only (the log does not matter); a refused call only
appends to the log. -/

theorem stCreate_ok {w : World κ ν} {id : Nat} (h : (absW w).recs id = none) (st : Map κ ν) (ttl : Nat) :
    ∃ w', stCreate w id st ttl = (none, w') ∧ absW w' = (absW w).set id (some st) := by
  unfold stCreate
  rw [recs_eq_none.1 h]
  exact ⟨_, rfl, absW_insert w id ⟨st, ttl⟩⟩

theorem stUpdate_ok {w : World κ ν} {id : Nat} {m : Map κ ν} (h : (absW w).recs id = some m) (st : Map κ ν) (ttl : Nat) :
    ∃ w', stUpdate w id st ttl = (none, w') ∧ absW w' = (absW w).set id (some st) := by
  obtain ⟨r, hr, _⟩ := recs_eq_some.1 h
  unfold stUpdate
  rw [hr]
  exact ⟨_, rfl, absW_insert w id ⟨st, ttl⟩⟩

theorem stUpdate_unknown {w : World κ ν} {id : Nat} (h : (absW w).recs id = none) (st : Map κ ν) (ttl : Nat) :
    ∃ e, stUpdate w id st ttl = (some .unknownId, w.logged e) := by
  unfold stUpdate
  rw [recs_eq_none.1 h]
  exact ⟨_, rfl⟩

theorem stUpdateTtl_ok {w : World κ ν} {id : Nat} {m : Map κ ν} (h : (absW w).recs id = some m) (ttl : Nat) :
    ∃ w', stUpdateTtl w id ttl = (none, w') ∧ absW w' = absW w := by
  obtain ⟨r, hr, e⟩ := recs_eq_some.1 h
  unfold stUpdateTtl
  rw [hr]
  exact ⟨_, rfl, (absW_insert w id ⟨r.state, ttl⟩).trans (set_same _ _ _ (e ▸ h))⟩

theorem stDelete_abs (w : World κ ν) (id : Nat) :
    ∃ e w', stDelete w id = (e, w') ∧ absW w' = (absW w).set id none := by
  unfold stDelete
  cases hl : Map.lookup w.store id with
  | some r => exact ⟨_, _, rfl, absW_erase w id⟩
  | none => exact ⟨_, _, rfl, (set_same _ _ _ (recs_eq_none.2 hl)).symm⟩

theorem stChangeId_ok {w : World κ ν} {old new : Nat} {m : Map κ ν} (hn : (absW w).recs new = none)
    (ho : (absW w).recs old = some m) :
    ∃ w', stChangeId w old new = (none, w') ∧ absW w' = ((absW w).set old none).set new (some m) := by
  obtain ⟨r, hr, e⟩ := recs_eq_some.1 ho
  unfold stChangeId
  rw [recs_eq_none.1 hn, hr]
  subst e
  exact ⟨_, rfl, (absW_insert { w with store := Map.erase w.store old } new r).trans
    (congrArg (·.set new (some r.state)) (absW_erase w old))⟩

theorem stChangeId_unknown {w : World κ ν} {old new : Nat} (hn : (absW w).recs new = none)
    (ho : (absW w).recs old = none) :
    ∃ e, stChangeId w old new = (some .unknownId, w.logged e) := by
  unfold stChangeId
  rw [recs_eq_none.1 hn, recs_eq_none.1 ho]
  exact ⟨_, rfl⟩

theorem Inv.bounded {s : Sess κ ν} {w : World κ ν} (h : Inv s w) : Bounded (absW w) :=
  fun i hi => h.storeLt i (mt recs_eq_none.2 hi)

/-- `Inv` reads the store and the counter of the world, not its log. -/
theorem Inv.logged {s : Sess κ ν} {w : World κ ν} (h : Inv s w) (e : LogE κ ν) : Inv s (w.logged e) :=
  { h with }

/-- `Inv` does not read the client cell. -/
theorem Inv.setClient {s : Sess κ ν} {w : World κ ν} (h : Inv s w) (c : Cli κ ν) :
    Inv { s with client := c } w :=
  { h with }

theorem Inv.setServer {s : Sess κ ν} {w : World κ ν} (h : Inv s w) (sv : Srv κ ν) (inv : Bool)
    (hu : ∀ st t, sv = .unchanged st t →
      ∃ o r, s.id.oldId = some o ∧ Map.lookup w.store o = some r ∧ r.state = st)
    (hd : sv = .doesNotExist → ∀ o, s.id.oldId = some o → Map.lookup w.store o = none)
    (hi : inv = true → sv = .markedForDeletion) :
    Inv { s with server := some sv, invalidated := inv } w :=
  { h with
    newFresh := fun n e => ⟨(h.newFresh n e).1, nofun⟩
    unchangedOk := fun st t e => hu st t (Option.some.inj e)
    dneOk := fun e => hd (Option.some.inj e)
    invOk := fun e => congrArg some (hi e) }

theorem Inv.setChanged {s : Sess κ ν} {w : World κ ν} (h : Inv s w) (st : Map κ ν)
    (h1 : s.server ≠ some .markedForDeletion) : Inv { s with server := some (.changed st) } w :=
  h.setServer (.changed st) s.invalidated nofun nofun (fun e => absurd (h.invOk e) h1)

theorem Inv.existing {n : Nat} {sv : Option (Srv κ ν)} {c : Cli κ ν} {inv : Bool} {w : World κ ν} {W : SWorld κ ν}
    (ha : absW w = W) (hb : Bounded W) (hn : n < W.nextId)
    (hu : ∀ st t, sv = some (.unchanged st t) → W.recs n = some st)
    (hd : sv = some .doesNotExist → W.recs n = none)
    (hi : inv = true → sv = some .markedForDeletion) : Inv ⟨.existing n, sv, c, inv⟩ w := by
  subst ha
  -- old and new id are both `n`; the two freshness clauses speak of the other kinds of id
  exact {
    storeLt := fun i h => hb i (mt recs_eq_none.1 h)
    newLt := hn
    oldLt := fun o e => by
      cases e
      exact hn
    renamedFresh := nofun
    newFresh := nofun
    unchangedOk := fun st t e => by
      obtain ⟨r, hl, hr⟩ := recs_eq_some.1 (hu st t e)
      exact ⟨n, r, rfl, hl, hr⟩
    dneOk := fun e o e' => by
      cases e'
      exact recs_eq_none.1 (hd e)
    invOk := hi }

theorem Inv.cycle {s : Sess κ ν} {w : World κ ν} (h : Inv s w) : Inv (cycleId s w).1 (cycleId s w).2 := by
  have fresh : Map.lookup w.store w.nextId = none := h.bounded.fresh
  have up {i : Nat} (hi : i < w.nextId) : i < w.nextId + 1 := Nat.lt_succ_of_lt hi
  obtain ⟨id, server, client, inval⟩ := s
  -- the new id is the counter `w.nextId`, fresh by `fresh`; the cell and the store stay
  cases id with
  | newlyGenerated n =>
    -- no old id: again `newlyGenerated`
    exact {
      storeLt := fun i e => up (h.storeLt i e)
      newLt := Nat.lt_succ_self _
      oldLt := nofun
      renamedFresh := nofun
      newFresh := fun _ e => by
        cases e
        exact ⟨fresh, (h.newFresh n rfl).2⟩
      unchangedOk := h.unchangedOk
      dneOk := h.dneOk
      invOk := h.invOk }
  | existing o | toBeRenamed o _ =>
    -- old id `o`: now `toBeRenamed o w.nextId`, and `o` is below the counter
    exact {
      storeLt := fun i e => up (h.storeLt i e)
      newLt := Nat.lt_succ_self _
      oldLt := fun _ e => up (h.oldLt _ e)
      renamedFresh := fun _ _ e => by
        cases e
        exact ⟨fresh, Nat.ne_of_lt (h.oldLt o rfl)⟩
      newFresh := nofun
      unchangedOk := h.unchangedOk
      dneOk := h.dneOk
      invOk := h.invOk }

/-- Coherence facts about a specification state (they follow from `Inv` for `abs s`, `absW w`). -/
structure SInv (S : SSess κ ν) (W : SWorld κ ν) : Prop where
  absentOk : S.srv = .absent → ∀ o, S.id.oldId = some o → W.recs o = none
  renamedFresh : ∀ o n, S.id = .toBeRenamed o n → W.recs n = none ∧ o ≠ n
  newFresh : ∀ n, S.id = .newlyGenerated n → W.recs n = none ∧ S.srv ≠ .unseen
  invOk : S.inv = true → S.srv = .deleted

theorem SInv_of_Inv (s : Sess κ ν) (w : World κ ν) (h : Inv s w) : SInv (abs s) (absW w) := by
  obtain ⟨id, server, client, inval⟩ := s
  exact {
    absentOk := fun hs o ho => by
      -- the view is `absent` only for the cell `doesNotExist`
      rcases server with _ | sv
      · cases hs
      · cases sv with
        | doesNotExist => exact recs_eq_none.2 (h.dneOk rfl o ho)
        | _ => cases hs
    renamedFresh := fun o n e =>
      ⟨recs_eq_none.2 (h.renamedFresh o n e).1, (h.renamedFresh o n e).2⟩
    newFresh := fun n e => by
      refine ⟨recs_eq_none.2 (h.newFresh n e).1, ?_⟩
      -- the view is `unseen` only for the empty cell
      rcases server with _ | sv
      · exact absurd rfl (h.newFresh n e).2
      · cases sv <;> nofun
    invOk := fun hi => congrArg viewSrv (h.invOk hi) }

theorem SInv.absent_newId {S : SSess κ ν} {W : SWorld κ ν} (h : SInv S W) (hs : S.srv = .absent) :
    W.recs S.id.newId = none := by
  obtain ⟨id, cli, dirty, srv, inv⟩ := S
  cases id with
  | existing n => exact h.absentOk hs n rfl
  | toBeRenamed o n => exact (h.renamedFresh o n rfl).1
  | newlyGenerated n => exact (h.newFresh n rfl).1

theorem SInv.unset_newId {S : SSess κ ν} {W : SWorld κ ν} (h : SInv S W) :
    (W.unset S.id.oldId).recs S.id.newId = none := by
  obtain ⟨id, cli, dirty, srv, inv⟩ := S
  cases id with
  | existing n => exact if_pos rfl
  | toBeRenamed o n => exact set_none_recs (h.renamedFresh o n rfl).1
  | newlyGenerated n => exact (h.newFresh n rfl).1

theorem normId_newId (id : CurId) : (normId id).newId = id.newId := by
  cases id <;> rfl

theorem Spec.step_not_panic (cfg : Config) (strict : Bool) (op : Op κ ν) (S : SSess κ ν) (W : SWorld κ ν) :
    (Spec.step cfg strict op S W).1.isPanic = false := by
  cases op <;> simp only [Spec.step] <;> (repeat' split) <;> rfl

/-! The id counter never goes back: shown on the specification side, where only `cycle` moves it
and `flush` builds its world by `set` and `unset`. -/

theorem flush_nextId (cfg : Config) (strict : Bool) (S S' : SSess κ ν) (W W' : SWorld κ ν)
    (h : flush cfg strict S W = some (S', W')) : W'.nextId = W.nextId := by
  unfold flush at h
  repeat' split at h
  all_goals cases h
  all_goals simp only [set_nextId, unset_nextId]

theorem Spec.step_nextId (cfg : Config) (strict : Bool) (op : Op κ ν) (S : SSess κ ν) (W : SWorld κ ν) :
    W.nextId ≤ (Spec.step cfg strict op S W).2.2.nextId := by
  cases op with
  | cycle => exact Nat.le_succ _
  | sync =>
    simp only [Spec.step]
    split
    · rename_i h
      exact Nat.le_of_eq (flush_nextId _ _ _ _ _ _ h).symm
    · exact Nat.le_refl _
  | _ =>
    -- every other arm returns the world it was given
    simp only [Spec.step]
    (repeat' split) <;> exact Nat.le_refl _

theorem Spec.runOps_nextId (cfg : Config) (strict : Bool) (ops : List (Op κ ν)) (S : SSess κ ν) (W : SWorld κ ν) :
    W.nextId ≤ (Spec.runOps cfg strict ops S W).2.2.nextId := by
  induction ops generalizing S W with
  | nil => exact Nat.le_refl _
  | cons op ops ih =>
    simp only [Spec.runOps]
    exact Nat.le_trans (Spec.step_nextId cfg strict op S W) (ih _ _)

theorem Spec.finalize_nextId (cfg : Config) (strict : Bool) (S : SSess κ ν) (W : SWorld κ ν) :
    (Spec.finalize cfg strict S W).2.nextId = W.nextId := by
  unfold Spec.finalize
  split
  · rfl
  · rename_i S' W' h
    have := flush_nextId _ _ _ _ _ _ h
    (repeat' split) <;> exact this

theorem Spec.finalizeSession_nextId (cfg : Config) (strict : Bool) (S : SSess κ ν) (W : SWorld κ ν) :
    (Spec.finalizeSession cfg strict S W).2.nextId = W.nextId := by
  have := Spec.finalize_nextId cfg strict S W
  unfold Spec.finalizeSession
  generalize Spec.finalize cfg strict S W = m at *
  obtain ⟨f, W'⟩ := m
  cases f <;> exact this

theorem forceLoad_loaded (cfg : Config) (rem : Nat) (s : Sess κ ν) (w : World κ ν) (h : s.server ≠ none) :
    forceLoad cfg rem s w = (s, w) := by
  unfold forceLoad
  split
  · rfl
  · split
    · rfl
    · contradiction

/-- The loaded session is given field by field, with a filled cell, so that the `match` on the
    cell in every operation reduces. -/
theorem forceLoad_refines (cfg : Config) (rem : Nat) (s : Sess κ ν) (w : World κ ν) (h : Inv s w) :
    ∃ id sv c inv w1, forceLoad cfg rem s w = (⟨id, some sv, c, inv⟩, w1) ∧
      abs ⟨id, some sv, c, inv⟩ = look cfg (abs s) (absW w) ∧ absW w1 = absW w ∧ Inv ⟨id, some sv, c, inv⟩ w1 := by
  obtain ⟨id, server, client, inval⟩ := s
  cases server with
  | some sv =>
    -- already loaded: `forceLoad` and `look` both do nothing
    refine ⟨id, sv, client, inval, w, forceLoad_loaded _ _ _ _ nofun, ?_, rfl, h⟩
    cases sv <;> rfl
  | none =>
    have hi (e : inval = true) : False := nomatch h.invOk e
    cases hid : id.oldId with
    | none =>
      -- a brand-new id comes with a filled cell
      cases id with
      | newlyGenerated n => exact absurd rfl (h.newFresh n rfl).2
      | _ => cases hid
    | some o =>
      -- `load o`; the store only gains a log entry
      simp only [forceLoad, hid, stLoad, look, abs, viewSrv, Option.bind_some, absW_recs]
      cases hl : Map.lookup w.store o with
      | some r =>
        -- the cell becomes `unchanged r.state rem`
        refine ⟨_, _, _, _, _, rfl, rfl, rfl, ?_⟩
        refine (h.logged _).setServer _ _ (fun _ _ e => ?_) nofun (hi · |>.elim)
        cases e
        exact ⟨o, r, hid, hl, rfl⟩
      | none =>
        cases hm : cfg.missing with
        | allow =>
          -- the cell becomes `doesNotExist`
          refine ⟨_, _, _, _, _, rfl, rfl, rfl, ?_⟩
          refine (h.logged _).setServer _ _ nofun (fun _ o' e => ?_) (hi · |>.elim)
          cases hid.symm.trans e
          exact hl
        | reject =>
          -- the cell becomes `markedForDeletion`, and the session is invalidated
          refine ⟨_, _, _, _, _, rfl, rfl, rfl, ?_⟩
          exact (h.logged _).setServer _ true nofun nofun fun _ => rfl

theorem syncId_unchanged (id : CurId) (st : Map κ ν) (t : Nat) : syncId id (some (.unchanged st t)) = .existing id.newId := by
  cases id <;> rfl

/-- Once the store is aligned, what remains of `sync` is computation on the session. -/
theorem sync_of_store {cfg : Config} {s : Sess κ ν} {w w' : World κ ν} (e : syncStore cfg s w = (.ok, w')) :
    sync cfg s w = (.ok, { s with server := syncServer cfg s, id := syncId s.id (syncServer cfg s) }, w') := by
  simp only [sync, e]

/-- `sync` against `flush` (strict): either both succeed in related states, or both refuse — the
    model with exactly the error of finding F7, leaving session and records untouched. The cases
    are those of `syncStore`; after a successful sync the cell holds a record under `.existing id.newId`,
    or there is no record and the id is `normId id`. -/
theorem sync_refines (cfg : Config) (s : Sess κ ν) (w : World κ ν) (h : Inv s w) :
    (∃ s' w', sync cfg s w = (.ok, s', w') ∧ flush cfg true (abs s) (absW w) = some (abs s', absW w') ∧ Inv s' w') ∨
    (∃ w', sync cfg s w = (.err f7, s, w') ∧ flush cfg true (abs s) (absW w) = none ∧ absW w' = absW w ∧ Inv s w' ∧
      s.server = none ∧ ∃ o n, s.id = .toBeRenamed o n ∧ Map.lookup w.store o = none) := by
  obtain ⟨id, server, client, inval⟩ := s
  have hb := h.bounded
  have hren (o n : Nat) (e : id = .toBeRenamed o n) : (absW w).recs n = none :=
    recs_eq_none.2 (h.renamedFresh o n e).1
  -- the invariant once the record `m` sits under the new id
  have present {w' : World κ ν} {W' : SWorld κ ν} {m : Map κ ν} (t : Nat) (ha : absW w' = W')
      (hb' : Bounded W') (hn : W'.nextId = w.nextId) (hr : W'.recs id.newId = some m)
      (hs : server ≠ some .markedForDeletion) :
      Inv ⟨.existing id.newId, some (.unchanged m t), client, inval⟩ w' := by
    refine .existing ha hb' (hn ▸ h.newLt) (fun _ _ e => ?_) nofun
      (fun e => absurd (h.invOk e) hs)
    cases e
    exact hr
  cases server with
  | none =>
    -- nothing loaded: only a pending rename reaches the store
    cases id with
    | existing o => exact .inl ⟨_, _, rfl, rfl, h⟩
    | newlyGenerated n => exact absurd rfl (h.newFresh n rfl).2
    | toBeRenamed o n =>
      -- `change_id o n`
      cases hr : (absW w).recs o with
      | none =>
        -- no record under `o`: the store refuses, and so does the strict `flush` (F7)
        obtain ⟨e, he⟩ := stChangeId_unknown (hren o n rfl) hr
        refine .inr ⟨w.logged e, ?_, ?_, rfl, h.logged e, rfl, o, n, rfl, recs_eq_none.1 hr⟩
        · simp only [sync, syncStore, he, failed]
          rfl
        · simp only [flush, abs, viewSrv, hr]
          rfl
      | some m =>
        obtain ⟨w', e, ha⟩ := stChangeId_ok (hren o n rfl) hr
        exact .inl ⟨_, w',
          sync_of_store (by simp only [syncStore, e, failed]),
          by simp only [flush, abs, viewSrv, hr, ha]; rfl,
          .existing ha ((hb.set nofun).set fun _ => h.newLt) h.newLt nofun nofun
            (fun e => nomatch h.invOk e)⟩
  | some sv =>
    cases sv with
    | unchanged st t =>
      -- loaded and not touched: the record under the old id `o` is `st`
      obtain ⟨o, r, ho, hl, rfl⟩ := h.unchangedOk _ _ rfl
      have hr : (absW w).recs o = some r.state := recs_eq_some.2 ⟨r, hl, rfl⟩
      cases id with
      | newlyGenerated n => cases ho
      | existing o' =>
        cases ho
        -- `update_ttl o` or nothing: the records stay
        obtain ⟨w', e, ha⟩ : ∃ w',
            syncStore cfg ⟨.existing o, some (.unchanged r.state t), client, inval⟩ w
              = (.ok, w') ∧
            absW w' = absW w := by
          simp only [syncStore]
          split
          · obtain ⟨w', e, ha⟩ := stUpdateTtl_ok hr cfg.ttl
            exact ⟨w', by rw [e]; rfl, ha⟩
          · exact ⟨w, rfl, rfl⟩
        refine .inl ⟨_, w', sync_of_store e, ?_, present t ha hb rfl hr nofun⟩
        -- `flush` erases `o` and writes `st` back under `o`
        rw [ha]
        simp only [flush, abs, viewSrv, CurId.newId, CurId.oldId, SWorld.unset, set_set,
          set_same _ _ _ hr]
        rfl
      | toBeRenamed o' n =>
        cases ho
        -- `change_id o n`, which finds the record
        obtain ⟨w', e, ha⟩ := stChangeId_ok (hren o n rfl) hr
        exact .inl ⟨_, w',
          sync_of_store (by simp only [syncStore, e]),
          by rw [ha]; rfl,
          present t ha ((hb.set nofun).set fun _ => h.newLt) rfl (if_pos rfl) nofun⟩
    | changed st =>
      -- the map `st` is written under the new id
      cases id with
      | newlyGenerated n =>
        -- `create n`, free by the invariant
        obtain ⟨w', e, ha⟩ := stCreate_ok (recs_eq_none.2 (h.newFresh n rfl).1) st cfg.ttl
        exact .inl ⟨_, w',
          sync_of_store (by simp only [syncStore, e, failed]),
          by rw [ha]; rfl,
          present _ ha (hb.set fun _ => h.newLt) rfl (if_pos rfl) nofun⟩
      | existing o =>
        -- `update o`, and `create o` if the record has gone
        obtain ⟨w', e, ha⟩ : ∃ w',
            syncStore cfg ⟨.existing o, some (.changed st), client, inval⟩ w = (.ok, w') ∧
            absW w' = (absW w).set o (some st) := by
          simp only [syncStore]
          cases hr : (absW w).recs o with
          | some m =>
            obtain ⟨w', e, ha⟩ := stUpdate_ok hr st cfg.ttl
            exact ⟨w', by rw [e], ha⟩
          | none =>
            obtain ⟨e1, he1⟩ := stUpdate_unknown hr st cfg.ttl
            obtain ⟨w', e, ha⟩ := stCreate_ok (w := w.logged e1) hr st cfg.ttl
            exact ⟨w', by rw [he1]; simp only [e, failed], ha⟩
        refine .inl ⟨_, w', sync_of_store e, ?_,
          present _ ha (hb.set fun _ => h.newLt) rfl (if_pos rfl) nofun⟩
        rw [ha]
        simp only [flush, abs, viewSrv, CurId.newId, CurId.oldId, SWorld.unset, set_set]
        rfl
      | toBeRenamed o n =>
        -- `delete o` (whatever it answers), then `create n`
        obtain ⟨e1, w1, he1, ha1⟩ := stDelete_abs w o
        have hn : (absW w1).recs n = none := by
          rw [ha1]
          exact set_none_recs (hren o n rfl)
        obtain ⟨w', e, ha⟩ := stCreate_ok hn st cfg.ttl
        rw [ha1] at ha
        exact .inl ⟨_, w',
          sync_of_store (by simp only [syncStore, he1, e, failed]),
          by rw [ha]; rfl,
          present _ ha ((hb.set nofun).set fun _ => h.newLt) rfl (if_pos rfl) nofun⟩
    | doesNotExist =>
      -- no record: `create` an empty one under the new id if `createIfEmpty` says so, else nothing
      have hfree : (absW w).recs id.newId = none := (SInv_of_Inv _ _ h).absent_newId rfl
      cases hc : createIfEmpty cfg ⟨id, some .doesNotExist, client, inval⟩ with
      | false =>
        simp only [createIfEmpty] at hc
        refine .inl ⟨_, w, sync_of_store ?_, ?_, ?_⟩
        · simp only [syncStore, createIfEmpty, hc, Bool.false_eq_true, ↓reduceIte]
        · simp only [flush, abs, viewSrv, syncServer, createIfEmpty, hc, Bool.false_eq_true,
            ↓reduceIte]
          cases id <;> rfl
        · -- the cell stays `doesNotExist`; a pending rename settles on an id without a record
          simp only [syncServer, createIfEmpty, hc, Bool.false_eq_true, ↓reduceIte]
          cases id with
          | toBeRenamed o n =>
            exact .existing rfl hb h.newLt nofun (fun _ => hfree) (fun e => nomatch h.invOk e)
          | _ => exact h
      | true =>
        simp only [createIfEmpty] at hc
        obtain ⟨w', e, ha⟩ := stCreate_ok hfree [] cfg.ttl
        refine .inl ⟨_, w', sync_of_store ?_, ?_, ?_⟩
        · simp only [syncStore, createIfEmpty, hc, e, failed, ↓reduceIte]
        · simp only [flush, abs, viewSrv, syncServer, syncId_unchanged, createIfEmpty, hc, ha,
            ↓reduceIte]
        · simp only [syncServer, syncId_unchanged, createIfEmpty, hc, ↓reduceIte]
          exact present _ ha (hb.set fun _ => h.newLt) rfl (if_pos rfl) nofun
    | markedForDeletion =>
      -- `delete` of the old id, if there is one; the cell stays marked only if invalidated
      cases id with
      | newlyGenerated n =>
        refine .inl ⟨_, w, rfl, by cases inval <;> rfl, ?_⟩
        cases inval with
        | false => exact h.setServer .doesNotExist false nofun nofun nofun
        | true => exact h
      | existing o | toBeRenamed o _ =>
        obtain ⟨e1, w', he, ha⟩ := stDelete_abs w o
        refine .inl ⟨_, w', sync_of_store (by simp only [syncStore, CurId.oldId, he]), ?_, ?_⟩
        · rw [ha]
          cases inval <;> rfl
        · -- the cell becomes `markedForDeletion` if invalidated, `doesNotExist` otherwise
          refine .existing ha (hb.set nofun) h.newLt (fun _ _ e => ?_)
            (fun _ => (SInv_of_Inv _ _ h).unset_newId) (fun e => ?_)
          · cases inval <;> cases e
          · subst e
            rfl

def Sim (m : Res ν × Sess κ ν × World κ ν) (sp : Res ν × SSess κ ν × SWorld κ ν) : Prop :=
  m.1 = sp.1 ∧ abs m.2.1 = sp.2.1 ∧ absW m.2.2 = sp.2.2 ∧ Inv m.2.1 m.2.2

/-- Every public operation of the model is the corresponding operation on the pair of maps. -/
theorem step_refines (cfg : Config) (rem : Nat) (op : Op κ ν) (s : Sess κ ν) (w : World κ ν) (h : Inv s w) :
    Sim (step cfg rem op s w) (Spec.step cfg true op (abs s) (absW w)) := by
  -- the server-side operations load first, and then work on the filled cell `sv`
  obtain ⟨id, sv, c, inv, w1, e, ha, hw, hi⟩ := forceLoad_refines cfg rem s w h
  cases op with
  | get k =>
    simp only [step, getRaw, e, Spec.step]
    rw [← ha, ← hw]
    cases sv <;> exact ⟨rfl, rfl, rfl, hi⟩
  | isEmpty =>
    simp only [step, isEmpty, e, Spec.step]
    rw [← ha, ← hw]
    cases sv <;> exact ⟨rfl, rfl, rfl, hi⟩
  | insert k v =>
    simp only [step, insertRaw, e, Spec.step]
    rw [← ha, ← hw]
    cases sv with
    | markedForDeletion => exact ⟨rfl, rfl, rfl, hi⟩
    | _ => exact ⟨rfl, rfl, rfl, hi.setChanged _ nofun⟩
  | remove k =>
    simp only [step, removeRaw, e, Spec.step]
    rw [← ha, ← hw]
    cases sv with
    | unchanged st t =>
      cases hl : Map.lookup st k with
      | none =>
        -- the cell stays `unchanged`, and erasing a key that is not there changes nothing
        simp only [abs, viewSrv, hl, Map.erase_of_lookup_none]
        exact ⟨rfl, rfl, rfl, hi⟩
      | some v =>
        simp only [abs, viewSrv, hl]
        exact ⟨rfl, rfl, rfl, hi.setChanged _ nofun⟩
    | changed st => exact ⟨rfl, rfl, rfl, hi.setChanged _ nofun⟩
    | doesNotExist | markedForDeletion => exact ⟨rfl, rfl, rfl, hi⟩
  | clear =>
    simp only [step, clear, e, Spec.step]
    rw [← ha, ← hw]
    cases sv with
    | unchanged st t =>
      -- an empty map stays `unchanged`
      cases st with
      | nil => exact ⟨rfl, rfl, rfl, hi⟩
      | cons p t => exact ⟨rfl, rfl, rfl, hi.setChanged _ nofun⟩
    | changed st => exact ⟨rfl, rfl, rfl, hi.setChanged _ nofun⟩
    | doesNotExist | markedForDeletion => exact ⟨rfl, rfl, rfl, hi⟩
  | forceLoad =>
    simp only [step, e]
    exact ⟨rfl, ha, hw, hi⟩
  | delete =>
    exact ⟨rfl, rfl, rfl, h.setServer .markedForDeletion s.invalidated nofun nofun fun _ => rfl⟩
  | invalidate =>
    exact ⟨rfl, rfl, rfl, h.setServer .markedForDeletion true nofun nofun fun _ => rfl⟩
  | cycle => exact ⟨rfl, rfl, rfl, h.cycle⟩
  | sync =>
    obtain ⟨s', w', e, hf, hi⟩ | ⟨w', e, hf, ha, hi, _⟩ := sync_refines cfg s w h
    · simp only [step, Spec.step, e, hf]
      exact ⟨rfl, rfl, rfl, hi⟩
    · simp only [step, Spec.step, e, hf]
      exact ⟨rfl, rfl, ha, hi⟩
  | isInvalidated | cGet k | cIsEmpty => exact ⟨rfl, rfl, rfl, h⟩
  -- the client-side writes do nothing on an invalidated session
  | cInsert k v =>
    obtain ⟨id, server, client, inval⟩ := s
    cases inval with
    | true => exact ⟨rfl, rfl, rfl, h⟩
    | false => exact ⟨rfl, rfl, rfl, h.setClient _⟩
  | cRemove k =>
    obtain ⟨id, server, client, inval⟩ := s
    cases inval with
    | true => exact ⟨rfl, rfl, rfl, h⟩
    | false =>
      cases client with
      | updated st =>
        simp only [step, clientRemove, Spec.step, abs, Cli.state, Bool.false_eq_true, ↓reduceIte]
        cases hl : Map.lookup st k with
        | none =>
          -- the model erases all the same
          rw [Map.erase_of_lookup_none st k hl]
          exact ⟨rfl, rfl, rfl, h.setClient _⟩
        | some v => exact ⟨rfl, rfl, rfl, h.setClient _⟩
      | unchanged st =>
        -- the cell becomes `updated` only if the key was there
        simp only [step, clientRemove, Spec.step, abs, Cli.state, Bool.false_eq_true, ↓reduceIte]
        cases hl : Map.lookup st k with
        | none => exact ⟨rfl, rfl, rfl, h⟩
        | some v => exact ⟨rfl, rfl, rfl, h.setClient _⟩
  | cClear =>
    obtain ⟨id, server, client, inval⟩ := s
    cases inval with
    | true => exact ⟨rfl, rfl, rfl, h⟩
    | false =>
      cases client with
      | updated st =>
        -- cleared to `updated []`, which an empty map was already
        cases st with
        | nil => exact ⟨rfl, rfl, rfl, h⟩
        | cons p t => exact ⟨rfl, rfl, rfl, h.setClient _⟩
      | unchanged st =>
        -- an empty map stays `unchanged`
        cases st with
        | nil => exact ⟨rfl, rfl, rfl, h⟩
        | cons p t => exact ⟨rfl, rfl, rfl, h.setClient _⟩

theorem runOps_refines (cfg : Config) (rem : Nat) (ops : List (Op κ ν)) (s : Sess κ ν) (w : World κ ν) (h : Inv s w) :
    ∃ rs s' w', runOps cfg rem ops s w = (rs, some s', w') ∧
      Spec.runOps cfg true ops (abs s) (absW w) = (rs, abs s', absW w') ∧ Inv s' w' := by
  induction ops generalizing s w with
  | nil => exact ⟨[], s, w, rfl, rfl, h⟩
  | cons op ops ih =>
    obtain ⟨h1, h2, h3, h4⟩ := step_refines cfg rem op s w h
    have hp := Spec.step_not_panic cfg true op (abs s) (absW w)
    obtain ⟨rs, s', w', e, e', hI⟩ := ih _ _ h4
    rw [h2, h3] at e'
    refine ⟨(step cfg rem op s w).1 :: rs, s', w', ?_, by simp only [Spec.runOps, e', h1], hI⟩
    rw [← h1] at hp
    simp only [runOps]
    generalize step cfg rem op s w = m at hp e
    obtain ⟨r, s1, w1⟩ := m
    cases r with
    | panic => cases hp
    | _ => simp only [e]

theorem syncServer_shape (cfg : Config) (s : Sess κ ν) :
    (∀ st, syncServer cfg s ≠ some (.changed st)) ∧
    (syncServer cfg s = some .markedForDeletion → s.invalidated = true) := by
  obtain ⟨id, server, client, inval⟩ := s
  cases server with
  | none => exact ⟨nofun, nofun⟩
  | some sv =>
    cases sv with
    | unchanged st t => exact ⟨nofun, nofun⟩
    | changed st => exact ⟨nofun, nofun⟩
    | doesNotExist =>
      -- `unchanged [] _` or `doesNotExist`
      simp only [syncServer]
      split <;> exact ⟨nofun, nofun⟩
    | markedForDeletion =>
      -- stays marked exactly if the session is invalidated
      cases inval with
      | true => exact ⟨nofun, fun _ => rfl⟩
      | false => exact ⟨nofun, nofun⟩

theorem sync_ok_fields (cfg : Config) (s s' : Sess κ ν) (w w' : World κ ν) (h : sync cfg s w = (.ok, s', w')) :
    s'.server = syncServer cfg s ∧ s'.invalidated = s.invalidated ∧ s'.client = s.client := by
  unfold sync at h
  split at h
  · cases h
    exact ⟨rfl, rfl, rfl⟩
  · rename_i hne _
    cases h
    exact (hne rfl).elim

theorem finalize_refines (cfg : Config) (s : Sess κ ν) (w : World κ ν) (h : Inv s w) :
    ∃ f s' w', finalize cfg s w = (f, s', w') ∧ Spec.finalize cfg true (abs s) (absW w) = (f, absW w') ∧
      Bounded (absW w') ∧ ∀ id c, f = .set id c → id < w'.nextId := by
  unfold finalize Spec.finalize
  obtain ⟨s', w', e, hf, hI⟩ | ⟨w', e, hf, ha, hI, _⟩ := sync_refines cfg s w h
  · -- both synced; the cookie is computed from the cell after the sync
    obtain ⟨g1, g2, _⟩ := sync_ok_fields cfg s s' w w' e
    obtain ⟨sh1, sh2⟩ := syncServer_shape cfg s
    rw [← g1] at sh1 sh2
    rw [← g2] at sh2
    rw [e, hf]
    have hb := hI.bounded
    have lt (i : Nat) (c : Map κ ν)
        (e : (Fin.set s'.id.newId s'.client.state : Fin κ ν) = .set i c) : i < w'.nextId := by
      cases e
      exact hI.newLt
    obtain ⟨id, server, client, inval⟩ := s'
    cases inval with
    | true =>
      -- removal cookie, or none for a brand-new id
      cases id <;> exact ⟨_, _, _, rfl, rfl, hb, nofun⟩
    | false =>
      -- no cookie only for an empty client map under a brand-new id without a record
      cases server with
      | none =>
        cases id with
        | newlyGenerated n => exact absurd rfl (hI.newFresh n rfl).2
        | _ =>
          simp only [abs, CurId.oldId, Option.isNone_some, Bool.and_false, Bool.false_eq_true,
            ↓reduceIte]
          exact ⟨_, _, _, rfl, rfl, hb, lt⟩
      | some sv =>
        cases sv with
        | markedForDeletion => cases sh2 rfl
        | changed st => exact absurd rfl (sh1 st)
        | unchanged st t =>
          -- a record, so an old id
          obtain ⟨o, r, ho, _⟩ := hI.unchangedOk st t rfl
          cases id with
          | newlyGenerated n => cases ho
          | _ =>
            simp only [abs, CurId.oldId, Option.isNone_some, Bool.and_false, Bool.false_eq_true,
              ↓reduceIte]
            exact ⟨_, _, _, rfl, rfl, hb, lt⟩
        | doesNotExist =>
          cases id with
          | newlyGenerated n =>
            simp only [abs, CurId.oldId, Option.isNone_none, Bool.and_true, Bool.not_false,
              Bool.false_eq_true, ↓reduceIte]
            split
            · exact ⟨_, _, _, rfl, rfl, hb, nofun⟩
            · exact ⟨_, _, _, rfl, rfl, hb, lt⟩
          | _ =>
            simp only [abs, CurId.oldId, Option.isNone_some, Bool.and_false, Bool.false_eq_true,
              ↓reduceIte]
            exact ⟨_, _, _, rfl, rfl, hb, lt⟩
  · rw [e, hf]
    exact ⟨_, _, _, rfl, congrArg _ ha.symm, hI.bounded, nofun⟩

theorem finalizeSession_refines (cfg : Config) (s : Sess κ ν) (w : World κ ν) (h : Inv s w) :
    ∃ f s' w', finalizeSession cfg s w = (f, s', w') ∧ Spec.finalizeSession cfg true (abs s) (absW w) = (f, absW w') ∧
      Bounded (absW w') ∧ ∀ id c, f = .set id c → id < w'.nextId := by
  obtain ⟨f, s', w', e, e', hb, hlt⟩ := finalize_refines cfg s w h
  simp only [finalizeSession, Spec.finalizeSession, e, e']
  rw [show clientIsEmpty s = cIsEmpty (abs s) from rfl]
  generalize (!cIsEmpty (abs s) && !willEncrypt cfg) = a
  generalize (!(willEncrypt cfg || willSign cfg)) = b
  cases f with
  | set id c =>
    cases a with
    | true => exact ⟨_, _, _, rfl, rfl, hb, nofun⟩
    | false =>
      cases b with
      | true => exact ⟨_, _, _, rfl, rfl, hb, nofun⟩
      | false => exact ⟨_, _, _, rfl, rfl, hb, hlt⟩
  | removal =>
    cases a with
    | true => exact ⟨_, _, _, rfl, rfl, hb, nofun⟩
    | false => cases b <;> exact ⟨_, _, _, rfl, rfl, hb, nofun⟩
  | _ => exact ⟨_, _, _, rfl, rfl, hb, nofun⟩

theorem newSession_refines (incoming : Option (Nat × Map κ ν)) (w : World κ ν) (hw : Bounded (absW w))
    (hi : ∀ id c, incoming = some (id, c) → id < w.nextId) :
    Spec.newSession incoming (absW w) = (abs (newSession incoming w).1, absW (newSession incoming w).2) ∧
    Inv (newSession incoming w).1 (newSession incoming w).2 := by
  cases incoming with
  | none =>
    -- a brand-new session: id `w.nextId`, cell `doesNotExist`; the counter moves on
    refine ⟨rfl, ?_⟩
    exact {
      storeLt := fun i e => Nat.lt_succ_of_lt (hw i (mt recs_eq_none.1 e))
      newLt := Nat.lt_succ_self _
      oldLt := nofun
      renamedFresh := nofun
      newFresh := fun _ e => by
        cases e
        exact ⟨hw.fresh, nofun⟩
      unchangedOk := nofun
      dneOk := nofun
      invOk := nofun }
  | some p =>
    -- the session of the cookie `(id, c)`: id `existing id`, nothing loaded
    obtain ⟨id, c⟩ := p
    exact ⟨rfl, .existing rfl hw (hi id c rfl) nofun nofun nofun⟩

/-- One whole request (`Session::new`; operations; `finalize_session`) is the request of the
    specification: same results, same cookie, related worlds. -/
theorem request_refines (cfg : Config) (rem : Nat) (incoming : Option (Nat × Map κ ν)) (ops : List (Op κ ν))
    (w : World κ ν) (hw : Bounded (absW w)) (hi : ∀ id c, incoming = some (id, c) → id < w.nextId) :
    ∃ rs f w', runRequest cfg rem incoming ops w = (rs, f, w') ∧
      Spec.runRequest cfg true incoming ops (absW w) = (rs, f, absW w') ∧
      Bounded (absW w') ∧ (∀ id c, f = .set id c → id < w'.nextId) ∧ w.nextId ≤ w'.nextId := by
  obtain ⟨n1, n2⟩ := newSession_refines incoming w hw hi
  obtain ⟨rs, s1, w1, e1, e1', hI⟩ := runOps_refines cfg rem ops _ _ n2
  obtain ⟨f, s2, w2, e2, e2', hb, hlt⟩ := finalizeSession_refines cfg s1 w1 hI
  refine ⟨rs, f, w2, by simp only [runRequest, e1, e2],
    by simp only [Spec.runRequest, n1, e1', e2'], hb, hlt, ?_⟩
  -- the counter: on the specification side, stage by stage
  have m0 : w.nextId ≤ (newSession incoming w).2.nextId := by
    cases incoming with
    | none => exact Nat.le_succ _
    | some p => exact Nat.le_refl _
  have m1 := Spec.runOps_nextId cfg true ops (abs (newSession incoming w).1)
    (absW (newSession incoming w).2)
  have m2 := Spec.finalizeSession_nextId cfg true (abs s1) (absW w1)
  rw [e1'] at m1
  rw [e2'] at m2
  exact Nat.le_trans m0 (Nat.le_trans m1 (Nat.le_of_eq m2.symm))

/-- Every cookie the client holds or was ever handed carries an id the counter handed out. -/
def ClientInv (c : Client κ ν) (n : Nat) : Prop :=
  (∀ t, c.jar = some t → t.id < n) ∧ ∀ t, some t ∈ c.issued → t.id < n

theorem ClientInv.issued_lt {c : Client κ ν} {n : Nat} (hc : ClientInv c n) {j : Nat} {t : Token κ ν}
    (h : (c.issued[j]?).join = some t) : t.id < n :=
  hc.2 t (List.mem_of_getElem? (Option.join_eq_some_iff.1 h))

theorem sent_lt (c : Client κ ν) (n : Nat) (hc : ClientInv c n) (src : Src κ ν) :
    ∀ t, sent c src = some t → t.id < n := by
  intro t h
  cases src with
  | jar => exact hc.1 t h
  | issued j => exact hc.issued_lt h
  | _ => cases h

theorem accept_id (cfg : Config) (t : Token κ ν) (id : Nat) (cl : Map κ ν)
    (h : accept cfg t = some (id, cl)) : id = t.id := by
  unfold accept at h
  split at h
  · cases h
    rfl
  · cases h

theorem presented_lt (cfg : Config) (c : Client κ ν) (n : Nat) (hc : ClientInv c n) (src : Src κ ν) :
    ∀ id cl, presented cfg c src = some (id, cl) → id < n := by
  intro id cl h
  have key : ∀ src', (sent c src').bind (accept cfg) = some (id, cl) → id < n := by
    intro src' h'
    obtain ⟨t, hs, ht⟩ := Option.bind_eq_some_iff.1 h'
    exact accept_id cfg t id cl ht ▸ sent_lt c n hc src' t hs
  cases src with
  | parts j cli =>
    obtain ⟨t, hj, ht⟩ := Option.map_eq_some_iff.1 h
    cases ht
    exact hc.issued_lt hj
  | jar => exact key .jar h
  | none => exact key .none h
  | issued j => exact key (.issued j) h

theorem absW_expire (pres : Option (Nat × Map κ ν)) (w : World κ ν) :
    absW (expire pres w) = Spec.expire pres (absW w) := by
  cases pres with
  | none => rfl
  | some p => exact absW_erase w p.1

theorem absW_start (b : Bool) (pres : Option (Nat × Map κ ν)) (w : World κ ν) :
    absW { (if b = true then expire pres w else w) with log := [] } =
      if b = true then Spec.expire pres (absW w) else absW w := by
  cases b
  · rfl
  · exact absW_expire pres w

theorem Bounded.start {W : SWorld κ ν} (h : Bounded W) (b : Bool) (pres : Option (Nat × Map κ ν)) :
    Bounded (if b = true then Spec.expire pres W else W) ∧
      (if b = true then Spec.expire pres W else W).nextId = W.nextId := by
  cases b
  · exact ⟨h, rfl⟩
  · rcases pres with _ | ⟨id, _⟩
    · exact ⟨h, rfl⟩
    · exact ⟨h.set (absurd rfl), rfl⟩

theorem issuedBy_eq_some (cfg : Config) (f : Fin κ ν) (t : Token κ ν) (h : issuedBy cfg f = some t) :
    ∃ id cl, f = .set id cl ∧ t = issue cfg id cl := by
  cases f <;> cases h
  exact ⟨_, _, rfl, rfl⟩

theorem afterResponse_cases (cfg : Config) (held : Option (Token κ ν)) (f : Fin κ ν) (t : Token κ ν)
    (h : afterResponse cfg held f = some t) : issuedBy cfg f = some t ∨ held = some t := by
  cases f with
  | set id c => exact .inl h
  | removal => cases h
  | _ => exact .inr h

theorem history_refines (cfg : Config) (reqs : List (Req κ ν)) (c : Client κ ν) (w : World κ ν)
    (hw : Bounded (absW w)) (hc : ClientInv c w.nextId) :
    (runHistory cfg reqs c w).map (fun o => (o.res, o.fin)) = Spec.runHistory cfg true reqs c (absW w) := by
  induction reqs generalizing c w with
  | nil => rfl
  | cons rq rest ih =>
    simp only [runHistory, Spec.runHistory, List.map_cons]
    generalize reqCfg cfg rq.crypto = cfg'
    have hp := presented_lt cfg' c w.nextId hc rq.src
    have hs := sent_lt c w.nextId hc rq.src
    generalize presented cfg' c rq.src = pres at *
    generalize sent c rq.src = held at *
    obtain ⟨hw2, hn2⟩ := hw.start rq.expire pres
    rw [← absW_start] at hw2 hn2 ⊢
    generalize ({ (if rq.expire = true then expire pres w else w) with log := [] } : World κ ν)
      = w2 at *
    have hn2 : w2.nextId = w.nextId := hn2
    obtain ⟨rs, f, w3, e, e', hw3, hset, hle⟩ :=
      request_refines cfg' rq.rem pres rq.ops w2 hw2 (hn2 ▸ hp)
    simp only [e, e']
    have mono : w.nextId ≤ w3.nextId := hn2 ▸ hle
    have new (t : Token κ ν) (h : issuedBy cfg' f = some t) : t.id < w3.nextId := by
      obtain ⟨id, cl, hf, rfl⟩ := issuedBy_eq_some cfg' f t h
      exact hset id cl hf
    refine congrArg _ (ih _ _ hw3 ⟨fun t h => ?_, fun t h => ?_⟩)
    · rcases afterResponse_cases cfg' held f t h with h | h
      · exact new t h
      · exact Nat.lt_of_lt_of_le (hs t h) mono
    · rcases List.mem_append.1 h with h | h
      · exact Nat.lt_of_lt_of_le (hc.2 t h) mono
      · exact new t (List.mem_singleton.1 h).symm

end Pxv.Session