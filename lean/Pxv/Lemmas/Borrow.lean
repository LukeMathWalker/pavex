import Pxv.Model.Borrow
import Pxv.Lemmas.Basic
/-! The list-backed sets and maps of Model/Borrow.lean, and one round of its control skeleton `Ctl`. -/
namespace Pxv.CG

theorem mem_insertSorted {x y : Nat} {l : List Nat} : x ∈ insertSorted y l ↔ x = y ∨ x ∈ l := by
  induction l with
  | nil => simp [insertSorted]
  | cons z zs ih =>
    simp only [insertSorted]
    split
    · simp
    · split
      · rename_i heq
        obtain rfl : y = z := by simpa using heq
        simp
      · simp only [List.mem_cons, ih]
        exact or_left_comm

theorem mem_toSet {x : Nat} {l : List Nat} : x ∈ toSet l ↔ x ∈ l := by
  have step : ∀ (acc : List Nat) (c x : Nat), x ∈ insertSorted c acc ↔ x ∈ acc ∨ x = c :=
    fun _ _ _ => mem_insertSorted.trans or_comm
  have := mem_foldl (M := fun l => l) (g := fun c => c) step l [] x
  simpa [toSet] using this

theorem toSet_eq_nil {l : List Nat} : toSet l = [] ↔ l = [] := by
  simp only [List.eq_nil_iff_forall_not_mem, mem_toSet]

theorem mem_union {a b : List Nat} {x : Nat} : x ∈ union a b ↔ x ∈ a ∨ x ∈ b :=
  (mem_foldl_insertEnd (fun c => c) b a x).trans (by simp)

theorem union_ne_nil_right (a : List Nat) (x : Nat) : union a [x] ≠ [] := by
  intro h
  have : x ∈ union a [x] := mem_union.2 (Or.inr (List.mem_singleton.2 rfl))
  rw [h] at this
  cases this

theorem lookup_setKey (m : List (Nat × List Nat)) (k k' : Nat) (v : List Nat) :
    lookup (setKey m k v) k' = if k' = k then v else lookup m k' := by
  unfold lookup setKey
  rw [List.find?_append, List.find?_filter]
  by_cases h : k' = k
  · subst h
    have : m.find? (fun x => decide ((x.1 != k') = true ∧ (x.1 == k') = true)) = none := by
      rw [List.find?_eq_none]
      intro x _
      cases hx : x.1 == k' <;> simp [hx, bne]
    rw [this]
    simp
  · have : (fun x : Nat × List Nat => decide ((x.1 != k) = true ∧ (x.1 == k') = true)) =
        (fun x => x.1 == k') := by
      funext x
      cases hx : x.1 == k'
      · simp
      · have : x.1 = k' := by simpa using hx
        simp [this, h]
    rw [this]
    have hk : (k == k') = false := by simpa using fun e : k = k' => h e.symm
    cases m.find? (fun x => x.1 == k') <;> simp [hk, h]

/-- a round that parks as many nodes as the round before and clones nothing (`r`: with the repair 819c099). -/
theorem Ctl.next_same (r : Bool) (s : Strat) (f : Bool) {n : Nat} (hn : (n == 0) = false) :
    Ctl.next r ⟨s, f, some n⟩ n false =
      match s, f with
      | .park, f => some ⟨.clone, f, some n⟩
      | .clone, true => some ⟨.park, !r, some n⟩
      | .clone, false => some ⟨.error, false, some n⟩
      | .error, _ => none := by
  cases s <;> cases f <;> cases r <;> simp [Ctl.next, hn]

end Pxv.CG
