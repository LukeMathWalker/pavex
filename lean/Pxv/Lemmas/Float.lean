import Pxv.Model.Float
/-! The rounding core of the float model: `roundHalfEven n d` is within half a unit of `n / d`;
`geePow2` compares with a power of two of either sign. -/
namespace Pxv.ReqData

theorem roundHalfEven_cases (n d : Nat) :
    (roundHalfEven n d = n / d ∧ 2 * (n % d) ≤ d) ∨
      (roundHalfEven n d = n / d + 1 ∧ d ≤ 2 * (n % d)) := by
  unfold roundHalfEven
  simp only []
  split
  next below => exact Or.inl ⟨rfl, Nat.le_of_lt below⟩
  next notBelow =>
    split
    next above => exact Or.inr ⟨rfl, Nat.le_of_lt above⟩
    next notAbove =>
      -- a tie: down or up, whichever is even
      split
      next => exact Or.inl ⟨rfl, Nat.le_of_not_lt notAbove⟩
      next => exact Or.inr ⟨rfl, Nat.le_of_not_lt notBelow⟩

/-- `2·|q·d − n| ≤ d` for `q = roundHalfEven n d`, without subtraction. -/
theorem roundHalfEven_near (n d : Nat) (hd : 0 < d) :
    2 * (roundHalfEven n d * d) ≤ 2 * n + d ∧ 2 * n ≤ 2 * (roundHalfEven n d * d) + d := by
  have := Nat.mod_lt n hd
  have := Nat.div_add_mod' n d
  rcases roundHalfEven_cases n d with ⟨e, h⟩ | ⟨e, h⟩ <;> rw [e]
  · omega
  · rw [Nat.add_mul]
    omega

theorem mul_add_le_of_lt {a b : Nat} (d : Nat) (h : a < b) : a * d + d ≤ b * d :=
  Nat.add_one_mul a d ▸ Nat.mul_le_mul_right d h

theorem roundHalfEven_range (n d lo hi : Nat) (hd : 0 < d) (h1 : lo * d ≤ n)
    (h2 : n < hi * d) :
    lo ≤ roundHalfEven n d ∧ roundHalfEven n d ≤ hi := by
  obtain ⟨ha, hb⟩ := roundHalfEven_near n d hd
  generalize roundHalfEven n d = q at ha hb
  refine ⟨Nat.le_of_not_lt fun h => ?_, Nat.le_of_not_lt fun h => ?_⟩
  · have := mul_add_le_of_lt d h
    omega
  · have := mul_add_le_of_lt d h
    omega

/-- `geePow2` at an exponent written as a difference of naturals: both signs at once, without
    division. -/
theorem geePow2_sub (num den x y : Nat) :
    geePow2 num den ((x : Int) - y) = decide (den * 2 ^ x ≤ num * 2 ^ y) := by
  have hp : ∀ k, 0 < 2 ^ k := fun k => Nat.pow_pos (by decide)
  unfold geePow2
  split
  · obtain ⟨k, rfl⟩ := Nat.exists_eq_add_of_le (show y ≤ x by omega)
    rw [show ((y + k : Nat) : Int) - y = k by omega, Int.toNat_natCast, decide_eq_decide,
      Nat.pow_add, Nat.mul_left_comm, Nat.mul_comm num, Nat.mul_le_mul_left_iff (hp y)]
  · obtain ⟨k, rfl⟩ := Nat.exists_eq_add_of_le (show x ≤ y by omega)
    rw [show -((x : Int) - (x + k : Nat)) = k by omega, Int.toNat_natCast, decide_eq_decide,
      Nat.pow_add, Nat.mul_left_comm, Nat.mul_comm den, Nat.mul_le_mul_left_iff (hp x)]

theorem geePow2_succ_false {num den a b : Nat} (hA : num < 2 ^ (a + 1)) (hB : 2 ^ b ≤ den) :
    geePow2 num den ((a : Int) - b + 1) = false := by
  rw [show (a : Int) - b + 1 = (a + 1 : Nat) - b by omega, geePow2_sub, decide_eq_false_iff_not,
    Nat.not_le]
  calc num * 2 ^ b
      < 2 ^ (a + 1) * 2 ^ b := Nat.mul_lt_mul_of_pos_right hA (Nat.pow_pos (by decide))
    _ ≤ den * 2 ^ (a + 1) := by rw [Nat.mul_comm]; exact Nat.mul_le_mul_right _ hB

theorem geePow2_pred_true {num den a b : Nat} (hA : 2 ^ a ≤ num) (hB : den < 2 ^ (b + 1)) :
    geePow2 num den ((a : Int) - b - 1) = true := by
  rw [show (a : Int) - b - 1 = a - (b + 1 : Nat) by omega, geePow2_sub, decide_eq_true_eq,
    Nat.mul_comm num]
  exact Nat.mul_le_mul (Nat.le_of_lt hB) hA

end Pxv.ReqData
