import Pxv.Model.Session
/-! `Map` (an association list, first binding wins) behaves as a finite map under `lookup`. -/
namespace Pxv.Session
namespace Map
variable {κ ν : Type} [DecidableEq κ]

@[simp] theorem lookup_nil (k : κ) : lookup ([] : Map κ ν) k = none := rfl

theorem lookup_erase (m : Map κ ν) (k k' : κ) :
    lookup (erase m k') k = if k' = k then none else lookup m k := by
  induction m with
  | nil => simp [erase, lookup]
  | cons p t ih =>
    obtain ⟨k'', v⟩ := p
    by_cases h1 : k'' = k'
    · -- the head is erased: the answer is the tail's (`ih`); the head only matters at its own key
      subst h1
      simp only [erase, ↓reduceIte, ih]
      by_cases h2 : k'' = k
      · simp only [h2, ↓reduceIte]
      · simp only [lookup, h2, ↓reduceIte]
    · by_cases h2 : k'' = k
      · subst h2
        have h3 : ¬ k' = k'' := fun e => h1 e.symm
        simp only [erase, lookup, h1, h3, ↓reduceIte]
      · simp only [erase, lookup, h1, h2, ↓reduceIte, ih]

theorem lookup_erase_self (m : Map κ ν) (k : κ) : lookup (erase m k) k = none := by
  simp [lookup_erase]

theorem lookup_erase_ne (m : Map κ ν) {k k' : κ} (h : k' ≠ k) : lookup (erase m k') k = lookup m k := by
  simp [lookup_erase, h]

theorem lookup_insert (m : Map κ ν) (k k' : κ) (v : ν) :
    lookup (insert m k' v) k = if k' = k then some v else lookup m k := by
  by_cases h : k' = k
  · simp [insert, lookup, h]
  · simp [insert, lookup, h, lookup_erase]

theorem erase_of_lookup_none (m : Map κ ν) (k : κ) (h : lookup m k = none) : erase m k = m := by
  induction m with
  | nil => rfl
  | cons p t ih =>
    simp only [lookup] at h
    split at h
    · cases h
    · simp only [erase, *, ↓reduceIte, ih h]

/-- Emptiness is decided by the lookups: the list is a faithful finite map. -/
theorem isEmpty_iff (m : Map κ ν) : m.isEmpty = true ↔ ∀ k, lookup m k = none := by
  cases m with
  | nil => simp
  | cons p t =>
    obtain ⟨k, v⟩ := p
    simp only [List.isEmpty_cons, Bool.false_eq_true, false_iff]
    intro h
    have := h k
    simp [lookup] at this

end Map
end Pxv.Session
