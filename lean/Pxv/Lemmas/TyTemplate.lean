import Pxv.Model.TySpec
/-! Template matching (`is_a_template_for`) against a *concrete* type, C17 (1): a successful match
only extends the bindings, and under every extension of the result, binding the template gives the
concrete type up to lifetimes (`tmplGo_sound`). -/
namespace Pxv.Ty

theorem BLe.refl (b : List (String × Ty)) : BLe b b := fun _ _ h => h
theorem BLe.trans {a b c : List (String × Ty)} (h1 : BLe a b) (h2 : BLe b c) : BLe a c :=
  fun x v h => h2 x v (h1 x v h)

theorem bget_bset (b : List (String × Ty)) (k x : String) (v : Ty) :
    bget (bset b k v) x = if k = x then some v else bget b x := by
  simp [bset, bget]

theorem bindOne_spec {p : String} {c : Ty} {b b' : List (String × Ty)}
    (h : bindOne p c b = some b') : bget b' p = some c ∧ BLe b b' := by
  -- the new binding is put in front; an older one for `p`, if any, was `c` already
  have hb : b' = bset b p c ∧ ∀ v, bget b p = some v → v = c := by
    unfold bindOne at h
    split at h
    · rename_i prev hp
      split at h
      · rename_i hpc
        cases h
        refine ⟨rfl, fun v hv => ?_⟩
        rw [hp] at hv
        cases hv
        exact hpc
      · cases h
    · rename_i hp
      cases h
      refine ⟨rfl, fun v hv => ?_⟩
      rw [hp] at hv
      cases hv
  obtain ⟨rfl, hv⟩ := hb
  refine ⟨by rw [bget_bset, if_pos rfl], fun x v hx => ?_⟩
  rw [bget_bset]
  split
  · rename_i hk; subst hk; rw [hv v hx]
  · exact hx

mutual
theorem bind_concrete (b : List (String × Ty)) : ∀ t, isTemplate t = false → bind b t = t
  | .path al p i bs as, h => by
      simp only [isTemplate] at h; simp only [bind, bind_concrete_args b as h]
  | .ref m l t, h => by simp only [isTemplate] at h; simp only [bind, bind_concrete b t h]
  | .tuple es, h => by simp only [isTemplate] at h; simp only [bind, bind_concrete_tys b es h]
  | .scalar s, _ => by simp only [bind]
  | .slice e, h => by simp only [isTemplate] at h; simp only [bind, bind_concrete b e h]
  | .array e n, h => by simp only [isTemplate] at h; simp only [bind, bind_concrete b e h]
  | .rawPtr m t, h => by simp only [isTemplate] at h; simp only [bind, bind_concrete b t h]
  | .fnPtr ins out abi u, h => by
      simp only [isTemplate, Bool.or_eq_false_iff] at h
      simp only [bind, bind_concrete_ins b ins h.1, bind_concrete_o b out h.2]
  | .generic x, h => by simp [isTemplate] at h
theorem bind_concrete_args (b : List (String × Ty)) : ∀ as, isTemplateArgs as = false → bindArgs b as = as
  | .nil, _ => by simp only [bindArgs]
  | .ty t r, h => by
      simp only [isTemplateArgs, Bool.or_eq_false_iff] at h
      simp only [bindArgs, bind_concrete b t h.1, bind_concrete_args b r h.2]
  | .lt l r, h => by
      simp only [isTemplateArgs] at h
      simp only [bindArgs, bind_concrete_args b r h]
  | .const v r, h => by
      simp only [isTemplateArgs] at h
      simp only [bindArgs, bind_concrete_args b r h]
theorem bind_concrete_tys (b : List (String × Ty)) : ∀ es, isTemplateTys es = false → bindTys b es = es
  | .nil, _ => by simp only [bindTys]
  | .cons t r, h => by
      simp only [isTemplateTys, Bool.or_eq_false_iff] at h
      simp only [bindTys, bind_concrete b t h.1, bind_concrete_tys b r h.2]
theorem bind_concrete_ins (b : List (String × Ty)) : ∀ es, isTemplateIns es = false → bindIns b es = es
  | .nil, _ => by simp only [bindIns]
  | .cons n t r, h => by
      simp only [isTemplateIns, Bool.or_eq_false_iff] at h
      simp only [bindIns, bind_concrete b t h.1, bind_concrete_ins b r h.2]
theorem bind_concrete_o (b : List (String × Ty)) : ∀ o, isTemplateO o = false → bindO b o = o
  | .none, _ => by simp only [bindO]
  | .some t, h => by simp only [isTemplateO] at h; simp only [bindO, bind_concrete b t h]
end

theorem genName_some {t : Ty} {x : String} (h : genName t = some x) : t = .generic x := by
  cases t <;> simp [genName] at h
  subst h; rfl

theorem bind_generic_of_get {b : List (String × Ty)} {x : String} {c : Ty}
    (h : bget b x = some c) : bind b (.generic x) = c := by
  simp [bind, h]

/-- The early `concrete == self` exit of `_is_a_template_for`: nothing is bound, and binding
    anything into a concrete type leaves it as it is. -/
theorem tmpl_exit {t c : Ty} (b : List (String × Ty)) (hc : isTemplate c = false) (e : c = t) :
    BLe b b ∧ ∀ b'', BLe b b'' → eraseLt (bind b'' t) = eraseLt c := by
  subst e
  exact ⟨BLe.refl _, fun b'' _ => by rw [bind_concrete b'' _ hc]⟩

mutual
theorem tmplGo_sound : ∀ (t c : Ty) (b b' : List (String × Ty)), isTemplate c = false →
    tmplGo t c b = some b' →
    BLe b b' ∧ ∀ b'', BLe b' b'' → eraseLt (bind b'' t) = eraseLt c
  | t, c, b, b', hc, h => by
      unfold tmplGo at h
      split at h
      · rename_i hct
        cases h
        exact tmpl_exit b hc hct
      -- below, `cases c` leaves the shape of `t`: against any other `tmplGo` answers `none`
      cases t with
      | path al p i bs as =>
        cases c <;> simp only [reduceCtorEq, Option.ite_none_right_eq_some] at h
        obtain ⟨⟨rfl, rfl, rfl⟩, h⟩ := h
        simp only [isTemplate] at hc
        have := tmplArgs_sound as _ b b' hc h
        exact ⟨this.1, fun b'' hb => by simp only [bind, eraseLt, this.2 b'' hb]⟩
      | ref m l t =>
        cases c <;> simp only [reduceCtorEq, Option.ite_none_right_eq_some] at h
        obtain ⟨rfl, h⟩ := h
        simp only [isTemplate] at hc
        have := tmplGo_sound t _ b b' hc h
        exact ⟨this.1, fun b'' hb => by simp only [bind, eraseLt, this.2 b'' hb]⟩
      | tuple es =>
        cases c <;> simp only [reduceCtorEq] at h
        simp only [isTemplate] at hc
        have := tmplTys_sound es _ b b' hc h
        exact ⟨this.1, fun b'' hb => by simp only [bind, eraseLt, this.2 b'' hb]⟩
      | scalar s =>
        cases c <;> simp only [reduceCtorEq, Option.ite_none_right_eq_some] at h
        obtain ⟨rfl, h⟩ := h
        cases h; exact tmpl_exit b hc rfl
      | slice e =>
        cases c <;> simp only [reduceCtorEq] at h
        simp only [isTemplate] at hc
        have := tmplGo_sound e _ b b' hc h
        exact ⟨this.1, fun b'' hb => by simp only [bind, eraseLt, this.2 b'' hb]⟩
      | array e n =>
        cases c <;> simp only [reduceCtorEq, Option.ite_none_right_eq_some] at h
        obtain ⟨rfl, h⟩ := h
        simp only [isTemplate] at hc
        have := tmplGo_sound e _ b b' hc h
        exact ⟨this.1, fun b'' hb => by simp only [bind, eraseLt, this.2 b'' hb]⟩
      | rawPtr m t =>
        cases c <;> simp only [reduceCtorEq, Option.ite_none_right_eq_some] at h
        obtain ⟨rfl, h⟩ := h
        simp only [isTemplate] at hc
        have := tmplGo_sound t _ b b' hc h
        exact ⟨this.1, fun b'' hb => by simp only [bind, eraseLt, this.2 b'' hb]⟩
      | fnPtr ins out abi u =>
        cases c <;> simp only [reduceCtorEq, Option.ite_none_right_eq_some] at h
        obtain ⟨⟨rfl, rfl⟩, h⟩ := h
        simp only [isTemplate, Bool.or_eq_false_iff] at hc
        split at h
        · rename_i b1 hi
          have hI := tmplIns_sound ins _ b b1 hc.1 hi
          have hO := tmplO_sound out _ b1 b' hc.2 h
          refine ⟨BLe.trans hI.1 hO.1, fun b'' hb => ?_⟩
          simp only [bind, eraseLt, hI.2 b'' (BLe.trans hO.1 hb), hO.2 b'' hb]
        · exact nomatch h
      | generic x =>
        have h : bindOne x c b = some b' := by cases c <;> exact h
        have := bindOne_spec h
        exact ⟨this.2, fun b'' hb => by rw [bind_generic_of_get (hb _ _ this.1)]⟩
termination_by structural t => t
theorem tmplArgs_sound : ∀ (ts cs : GArgs) (b b' : List (String × Ty)), isTemplateArgs cs = false →
    tmplArgs ts cs b = some b' →
    BLe b b' ∧ ∀ b'', BLe b' b'' → eraseLtArgs (bindArgs b'' ts) = eraseLtArgs cs
  | .nil, cs, b, b', hc, h => by
      cases cs <;> simp only [tmplArgs, reduceCtorEq, Option.some.injEq] at h
      subst h
      exact ⟨BLe.refl _, fun _ _ => rfl⟩
  | .ty t tr, cs, b, b', hc, h => by
      cases cs <;> simp only [tmplArgs, reduceCtorEq] at h
      simp only [isTemplateArgs, Bool.or_eq_false_iff] at hc
      split at h
      · -- the template argument is a generic parameter
        rename_i x hx
        cases genName_some hx
        split at h
        · rename_i b1 h1
          have h1s := bindOne_spec h1
          have hR := tmplArgs_sound tr _ b1 b' hc.2 h
          refine ⟨BLe.trans h1s.2 hR.1, fun b'' hb => ?_⟩
          simp only [bindArgs, eraseLtArgs, hR.2 b'' hb,
            bind_generic_of_get (hb _ _ (hR.1 _ _ h1s.1))]
        · exact nomatch h
      · split at h
        · exact nomatch h
        · split at h
          · rename_i b1 h1
            have hH := tmplGo_sound t _ b b1 hc.1 h1
            have hR := tmplArgs_sound tr _ b1 b' hc.2 h
            refine ⟨BLe.trans hH.1 hR.1, fun b'' hb => ?_⟩
            simp only [bindArgs, eraseLtArgs, hR.2 b'' hb, hH.2 b'' (BLe.trans hR.1 hb)]
          · exact nomatch h
  | .lt l tr, cs, b, b', hc, h => by
      cases cs <;> simp only [tmplArgs, reduceCtorEq] at h
      simp only [isTemplateArgs] at hc
      have hR := tmplArgs_sound tr _ b b' hc h
      exact ⟨hR.1, fun b'' hb => by simp only [bindArgs, eraseLtArgs, hR.2 b'' hb]⟩
  | .const v tr, cs, b, b', hc, h => by
      cases cs <;> simp only [tmplArgs, reduceCtorEq, Option.ite_none_right_eq_some] at h
      obtain ⟨rfl, h⟩ := h
      simp only [isTemplateArgs] at hc
      have hR := tmplArgs_sound tr _ b b' hc h
      exact ⟨hR.1, fun b'' hb => by simp only [bindArgs, eraseLtArgs, hR.2 b'' hb]⟩
termination_by structural ts => ts
theorem tmplTys_sound : ∀ (ts cs : Tys) (b b' : List (String × Ty)), isTemplateTys cs = false →
    tmplTys ts cs b = some b' →
    BLe b b' ∧ ∀ b'', BLe b' b'' → eraseLtTys (bindTys b'' ts) = eraseLtTys cs
  | .nil, cs, b, b', hc, h => by
      cases cs <;> simp only [tmplTys, reduceCtorEq, Option.some.injEq] at h
      subst h
      exact ⟨BLe.refl _, fun _ _ => rfl⟩
  | .cons t tr, cs, b, b', hc, h => by
      cases cs <;> simp only [tmplTys, reduceCtorEq] at h
      simp only [isTemplateTys, Bool.or_eq_false_iff] at hc
      split at h
      · rename_i b1 h1
        have hH := tmplGo_sound t _ b b1 hc.1 h1
        have hR := tmplTys_sound tr _ b1 b' hc.2 h
        refine ⟨BLe.trans hH.1 hR.1, fun b'' hb => ?_⟩
        simp only [bindTys, eraseLtTys, hR.2 b'' hb, hH.2 b'' (BLe.trans hR.1 hb)]
      · exact nomatch h
termination_by structural ts => ts
theorem tmplIns_sound : ∀ (ts cs : FnIns) (b b' : List (String × Ty)), isTemplateIns cs = false →
    tmplIns ts cs b = some b' →
    BLe b b' ∧ ∀ b'', BLe b' b'' → eraseLtIns (bindIns b'' ts) = eraseLtIns cs
  | .nil, cs, b, b', hc, h => by
      cases cs <;> simp only [tmplIns, reduceCtorEq, Option.some.injEq] at h
      subst h
      exact ⟨BLe.refl _, fun _ _ => rfl⟩
  | .cons n t tr, cs, b, b', hc, h => by
      cases cs <;> simp only [tmplIns, reduceCtorEq] at h
      simp only [isTemplateIns, Bool.or_eq_false_iff] at hc
      split at h
      · rename_i b1 h1
        have hH := tmplGo_sound t _ b b1 hc.1 h1
        have hR := tmplIns_sound tr _ b1 b' hc.2 h
        refine ⟨BLe.trans hH.1 hR.1, fun b'' hb => ?_⟩
        simp only [bindIns, eraseLtIns, hR.2 b'' hb, hH.2 b'' (BLe.trans hR.1 hb)]
      · exact nomatch h
termination_by structural ts => ts
theorem tmplO_sound : ∀ (t c : OTy) (b b' : List (String × Ty)), isTemplateO c = false →
    tmplO t c b = some b' →
    BLe b b' ∧ ∀ b'', BLe b' b'' → eraseLtO (bindO b'' t) = eraseLtO c
  | .none, c, b, b', hc, h => by
      cases c <;> simp only [tmplO, reduceCtorEq, Option.some.injEq] at h
      subst h
      exact ⟨BLe.refl _, fun _ _ => rfl⟩
  | .some t, c, b, b', hc, h => by
      cases c <;> simp only [tmplO, reduceCtorEq] at h
      simp only [isTemplateO] at hc
      have hH := tmplGo_sound t _ b b' hc h
      exact ⟨hH.1, fun b'' hb => by simp only [bindO, eraseLtO, hH.2 b'' hb]⟩
termination_by structural t => t
end

end Pxv.Ty
