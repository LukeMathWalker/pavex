import Pxv.Model.TySpec
/-! `canonicalize` on one type: canonical names are injective; the walk meets the generic names that
`unassigned` collects, is idempotent, and keeps which lifetimes are `'static`. -/
namespace Pxv.Ty

theorem nameDigits_ne_nil (n : Nat) : nameDigits n ≠ [] := by
  unfold nameDigits
  split <;> simp

theorem nameDigits_inj : ∀ (n m : Nat), nameDigits n = nameDigits m → n = m := by
  intro n
  induction n using Nat.strongRecOn with
  | _ n ih =>
    intro m h
    rw [nameDigits.eq_1 n, nameDigits.eq_1 m] at h
    by_cases hn : n < 26 <;> by_cases hm : m < 26 <;> simp only [hn, hm, dite_true, dite_false] at h
    · simpa using h
    · exact absurd (List.append_inj' (s₁ := []) h rfl).1.symm (nameDigits_ne_nil _)
    · exact absurd (List.append_inj' (s₂ := []) h rfl).1 (nameDigits_ne_nil _)
    · -- several digits each: the last digits agree, and the digits before them by induction
      have := List.append_inj' h rfl
      have h1 : n / 26 - 1 = m / 26 - 1 := ih (n / 26 - 1) (by omega) _ this.1
      have h2 : n % 26 = m % 26 := by simpa using this.2
      have hn1 : 0 < n / 26 := Nat.div_pos (Nat.le_of_not_lt hn) (by decide)
      have hm1 : 0 < m / 26 := Nat.div_pos (Nat.le_of_not_lt hm) (by decide)
      rw [← Nat.div_add_mod n 26, ← Nat.div_add_mod m 26, h2, Nat.sub_one_cancel hn1 hm1 h1]

theorem upper_code : ∀ d : Fin 26, (upperLetters.getD d.val 'A').toNat = 65 + d.val := by
  decide +kernel

theorem lower_code : ∀ d : Fin 26, (lowerLetters.getD d.val 'a').toNat = 97 + d.val := by
  decide +kernel

/-- `lname` and `gname` write the digits in an alphabet of 26 consecutive code points. -/
theorem digitName_inj {L : List Char} {c : Char} {k : Nat}
    (hL : ∀ d : Fin 26, (L.getD d.val c).toNat = k + d.val) {n m : Nat}
    (h : String.ofList ((nameDigits n).map fun d => L.getD d.val c) =
      String.ofList ((nameDigits m).map fun d => L.getD d.val c)) : n = m := by
  -- a digit is recovered from the code point of its letter
  have letter_inj : ∀ d d' : Fin 26, L.getD d.val c = L.getD d'.val c → d = d' := by
    intro d d' e
    have hd := hL d
    rw [e, hL d'] at hd
    exact Fin.ext (by omega)
  exact nameDigits_inj n m ((List.map_inj_right letter_inj).1 (String.ofList_injective h))

theorem gname_inj {n m : Nat} (h : gname n = gname m) : n = m := digitName_inj upper_code h

theorem gname_inj_iff {n m : Nat} : gname n = gname m ↔ n = m := ⟨gname_inj, congrArg _⟩

theorem lname_inj {n m : Nat} (h : lname n = lname m) : n = m := digitName_inj lower_code h

theorem idOf_snd (g : List String) (x : String) : (idOf g x).2 = insertNew g x := by
  unfold idOf insertNew; split <;> rfl

mutual
theorem canonGo_seen : ∀ (a : Ty) (s : CSt), (canonGo a s).2.seen = unassigned a s.seen
  | .path _ _ _ _ as, s => by simp only [canonGo, unassigned, canonArgs_seen as s]
  | .ref _ _ t, s => by simp only [canonGo, unassigned, canonGo_seen t]
  | .tuple es, s => by simp only [canonGo, unassigned, canonTys_seen es s]
  | .scalar _, s => by simp only [canonGo, unassigned]
  | .slice e, s => by simp only [canonGo, unassigned, canonGo_seen e s]
  | .array e _, s => by simp only [canonGo, unassigned, canonGo_seen e s]
  | .rawPtr _ t, s => by simp only [canonGo, unassigned, canonGo_seen t s]
  | .fnPtr ins out _ _, s => by
      simp only [canonGo, unassigned, canonO_seen out, canonIns_seen ins s]
  | .generic x, s => by simp only [canonGo, unassigned, idOf_snd]
theorem canonArgs_seen : ∀ (a : GArgs) (s : CSt), (canonArgs a s).2.seen = unassignedArgs a s.seen
  | .nil, s => by simp only [canonArgs, unassignedArgs]
  | .ty t r, s => by simp only [canonArgs, unassignedArgs, canonArgs_seen r, canonGo_seen t s]
  | .lt _ r, s => by simp only [canonArgs, unassignedArgs, canonArgs_seen r]
  | .const _ r, s => by simp only [canonArgs, unassignedArgs, canonArgs_seen r s]
theorem canonTys_seen : ∀ (a : Tys) (s : CSt), (canonTys a s).2.seen = unassignedTys a s.seen
  | .nil, s => by simp only [canonTys, unassignedTys]
  | .cons t r, s => by simp only [canonTys, unassignedTys, canonTys_seen r, canonGo_seen t s]
theorem canonIns_seen : ∀ (a : FnIns) (s : CSt), (canonIns a s).2.seen = unassignedIns a s.seen
  | .nil, s => by simp only [canonIns, unassignedIns]
  | .cons _ t r, s => by simp only [canonIns, unassignedIns, canonIns_seen r, canonGo_seen t s]
theorem canonO_seen : ∀ (a : OTy) (s : CSt), (canonO a s).2.seen = unassignedO a s.seen
  | .none, s => by simp only [canonO, unassignedO]
  | .some t, s => by simp only [canonO, unassignedO, canonGo_seen t s]
end

/-- The canonical names of the first `k` generic parameters. -/
def cnames (k : Nat) : List String := (List.range k).map gname

theorem cnames_length (k : Nat) : (cnames k).length = k := by simp [cnames]

theorem cnames_succ (k : Nat) : cnames (k + 1) = cnames k ++ [gname k] := by
  simp [cnames, List.range_succ]

theorem mem_cnames {i k : Nat} : gname i ∈ cnames k ↔ i < k := by
  simp only [cnames, List.mem_map, List.mem_range, gname_inj_iff, exists_eq_right]

theorem idxOf_cnames : ∀ {k i : Nat}, i < k → (cnames k).idxOf (gname i) = i
  | 0, i, h => by omega
  | k + 1, i, h => by
      rw [cnames_succ, List.idxOf_append]
      by_cases hi : i < k
      · simp only [mem_cnames, hi, if_true]; exact idxOf_cnames hi
      · have : i = k := by omega
        subst this
        simp [mem_cnames, cnames_length]

/-- Looking up the canonical name of `x` among the canonical names of the names seen so far gives
    the number `x` got, and extends the list exactly when `x` was new. -/
theorem idOf_cnames (g : List String) (x : String) :
    idOf (cnames g.length) (gname (idOf g x).1) = ((idOf g x).1, cnames (idOf g x).2.length) := by
  by_cases hx : x ∈ g
  · have hlt : g.idxOf x < g.length := List.idxOf_lt_length_iff.2 hx
    simp [idOf, hx, mem_cnames, hlt, idxOf_cnames hlt]
  · simp [idOf, hx, mem_cnames, cnames_length, cnames_succ]

/-- Every lifetime but `'static` gets the next canonical name. -/
theorem canonLt_of_ne_static {l : Lt} (hl : l ≠ .static) (n : Nat) :
    canonLt l n = (.named (lname n), n + 1) := by
  cases l with
  | static => exact absurd rfl hl
  | named _ | inferred | elided => rfl

theorem canonGLt_of_ne_static {l : GLt} (hl : l ≠ .static) (n : Nat) :
    canonGLt l n = (.named (lname n), n + 1) := by
  cases l with
  | static => exact absurd rfl hl
  | named _ | inferred => rfl

theorem canonLt_idem (l : Lt) (n : Nat) : canonLt (canonLt l n).1 n = canonLt l n := by
  cases l <;> rfl

theorem canonGLt_idem (l : GLt) (n : Nat) : canonGLt (canonGLt l n).1 n = canonGLt l n := by
  cases l <;> rfl

/- Canonicalising a canonical form again, with the names seen so far replaced by their canonical
   names, reproduces it. -/
mutual
theorem canonGo_idem : ∀ (a : Ty) (s : CSt),
    canonGo (canonGo a s).1 ⟨s.lt, cnames s.seen.length⟩ =
      ((canonGo a s).1, ⟨(canonGo a s).2.lt, cnames (canonGo a s).2.seen.length⟩)
  | .path _ _ _ _ as, s => by simp only [canonGo, canonArgs_idem as s]
  | .ref _ l t, s => by
      simp only [canonGo, canonLt_idem, (canonGo_idem t ⟨(canonLt l s.lt).2, s.seen⟩ :)]
  | .tuple es, s => by simp only [canonGo, canonTys_idem es s]
  | .scalar _, s => by simp only [canonGo]
  | .slice e, s => by simp only [canonGo, canonGo_idem e s]
  | .array e _, s => by simp only [canonGo, canonGo_idem e s]
  | .rawPtr _ t, s => by simp only [canonGo, canonGo_idem t s]
  | .fnPtr ins out _ _, s => by
      simp only [canonGo, canonIns_idem ins s, canonO_idem out (canonIns ins s).2]
  | .generic x, s => by simp only [canonGo, idOf_cnames]
theorem canonArgs_idem : ∀ (a : GArgs) (s : CSt),
    canonArgs (canonArgs a s).1 ⟨s.lt, cnames s.seen.length⟩ =
      ((canonArgs a s).1, ⟨(canonArgs a s).2.lt, cnames (canonArgs a s).2.seen.length⟩)
  | .nil, s => by simp only [canonArgs]
  | .ty t r, s => by simp only [canonArgs, canonGo_idem t s, canonArgs_idem r (canonGo t s).2]
  | .lt l r, s => by
      simp only [canonArgs, canonGLt_idem, (canonArgs_idem r ⟨(canonGLt l s.lt).2, s.seen⟩ :)]
  | .const _ r, s => by simp only [canonArgs, canonArgs_idem r s]
theorem canonTys_idem : ∀ (a : Tys) (s : CSt),
    canonTys (canonTys a s).1 ⟨s.lt, cnames s.seen.length⟩ =
      ((canonTys a s).1, ⟨(canonTys a s).2.lt, cnames (canonTys a s).2.seen.length⟩)
  | .nil, s => by simp only [canonTys]
  | .cons t r, s => by simp only [canonTys, canonGo_idem t s, canonTys_idem r (canonGo t s).2]
theorem canonIns_idem : ∀ (a : FnIns) (s : CSt),
    canonIns (canonIns a s).1 ⟨s.lt, cnames s.seen.length⟩ =
      ((canonIns a s).1, ⟨(canonIns a s).2.lt, cnames (canonIns a s).2.seen.length⟩)
  | .nil, s => by simp only [canonIns]
  | .cons _ t r, s => by simp only [canonIns, canonGo_idem t s, canonIns_idem r (canonGo t s).2]
theorem canonO_idem : ∀ (a : OTy) (s : CSt),
    canonO (canonO a s).1 ⟨s.lt, cnames s.seen.length⟩ =
      ((canonO a s).1, ⟨(canonO a s).2.lt, cnames (canonO a s).2.seen.length⟩)
  | .none, s => by simp only [canonO]
  | .some t, s => by simp only [canonO, canonGo_idem t s]
end

theorem ltSk_canonLt (l : Lt) (n : Nat) :
    (if (canonLt l n).1 = .static then Lt.static else .elided) =
      (if l = .static then Lt.static else .elided) := by
  cases l <;> simp [canonLt]

theorem ltSk_canonGLt (l : GLt) (n : Nat) :
    (if (canonGLt l n).1 = .static then GLt.static else .inferred) =
      (if l = .static then GLt.static else .inferred) := by
  cases l <;> simp [canonGLt]

mutual
theorem canonGo_ltSkeleton : ∀ (a : Ty) (s : CSt), ltSkeleton (canonGo a s).1 = ltSkeleton a
  | .path al p i bs as, s => by simp only [canonGo, ltSkeleton, canonArgs_ltSkeleton as s]
  | .ref m l t, s => by simp only [canonGo, ltSkeleton, ltSk_canonLt, canonGo_ltSkeleton t]
  | .tuple es, s => by simp only [canonGo, ltSkeleton, canonTys_ltSkeleton es s]
  | .scalar x, s => by simp only [canonGo, ltSkeleton]
  | .slice e, s => by simp only [canonGo, ltSkeleton, canonGo_ltSkeleton e s]
  | .array e n, s => by simp only [canonGo, ltSkeleton, canonGo_ltSkeleton e s]
  | .rawPtr m t, s => by simp only [canonGo, ltSkeleton, canonGo_ltSkeleton t s]
  | .fnPtr ins out abi u, s => by
      simp only [canonGo, ltSkeleton, canonIns_ltSkeleton ins s, canonO_ltSkeleton out]
  | .generic x, s => by simp only [canonGo, ltSkeleton]
theorem canonArgs_ltSkeleton : ∀ (a : GArgs) (s : CSt), ltSkeletonArgs (canonArgs a s).1 = ltSkeletonArgs a
  | .nil, s => by simp only [canonArgs, ltSkeletonArgs]
  | .ty t r, s => by
      simp only [canonArgs, ltSkeletonArgs, canonGo_ltSkeleton t s, canonArgs_ltSkeleton r]
  | .lt l r, s => by simp only [canonArgs, ltSkeletonArgs, ltSk_canonGLt, canonArgs_ltSkeleton r]
  | .const v r, s => by simp only [canonArgs, ltSkeletonArgs, canonArgs_ltSkeleton r s]
theorem canonTys_ltSkeleton : ∀ (a : Tys) (s : CSt), ltSkeletonTys (canonTys a s).1 = ltSkeletonTys a
  | .nil, s => by simp only [canonTys, ltSkeletonTys]
  | .cons t r, s => by
      simp only [canonTys, ltSkeletonTys, canonGo_ltSkeleton t s, canonTys_ltSkeleton r]
theorem canonIns_ltSkeleton : ∀ (a : FnIns) (s : CSt), ltSkeletonIns (canonIns a s).1 = ltSkeletonIns a
  | .nil, s => by simp only [canonIns, ltSkeletonIns]
  | .cons n t r, s => by
      simp only [canonIns, ltSkeletonIns, canonGo_ltSkeleton t s, canonIns_ltSkeleton r]
theorem canonO_ltSkeleton : ∀ (a : OTy) (s : CSt), ltSkeletonO (canonO a s).1 = ltSkeletonO a
  | .none, s => by simp only [canonO, ltSkeletonO]
  | .some t, s => by simp only [canonO, ltSkeletonO, canonGo_ltSkeleton t s]
end

end Pxv.Ty
