import Pxv.Model.Server
/-! For C16: `step` as a relation (`Step`) and runs; the inductive invariants, those that speak of workers or
connections with lemmas `X.setW` / `X.setC` saying which new record for one worker / one connection they survive, so
that a case of `Step` only supplies the local fact; the schedules by which the acceptor and a worker finish on their
own. -/
namespace Pxv.Server

@[simp] theorem setAcc_acc (s : State) (a : Acc) : (s.setAcc a).acc = a := rfl
@[simp] theorem setAcc_w (s : State) (a : Acc) : (s.setAcc a).w = s.w := rfl
@[simp] theorem setAcc_c (s : State) (a : Acc) : (s.setAcc a).c = s.c := rfl
@[simp] theorem setW_acc (s : State) (i : Nat) (x : Worker) : (s.setW i x).acc = s.acc := rfl
@[simp] theorem setW_w (s : State) (i : Nat) (x : Worker) (j : Nat) :
    (s.setW i x).w j = if j = i then x else s.w j := rfl
@[simp] theorem setW_c (s : State) (i : Nat) (x : Worker) : (s.setW i x).c = s.c := rfl
@[simp] theorem setC_acc (s : State) (i : Nat) (x : Conn) : (s.setC i x).acc = s.acc := rfl
@[simp] theorem setC_w (s : State) (i : Nat) (x : Conn) : (s.setC i x).w = s.w := rfl
@[simp] theorem setC_c (s : State) (i : Nat) (x : Conn) (j : Nat) :
    (s.setC i x).c j = if j = i then x else s.c j := rfl

theorem setW_w_self (s : State) (i : Nat) (x : Worker) : (s.setW i x).w i = x := if_pos rfl
theorem setW_w_ne (s : State) (x : Worker) {i j : Nat} (h : j ≠ i) : (s.setW i x).w j = s.w j :=
  if_neg h
theorem setC_c_self (s : State) (i : Nat) (x : Conn) : (s.setC i x).c i = x := if_pos rfl
theorem setC_c_ne (s : State) (x : Conn) {i j : Nat} (h : j ≠ i) : (s.setC i x).c j = s.c j :=
  if_neg h

theorem allNotified_iff (s : State) (n : Nat) :
    allNotified s n = true ↔ ∀ w, w < n → (s.w w).notified = true := by
  simp [allNotified, List.all_eq_true, List.mem_range]

theorem allPhase_iff (s : State) (p : CPhase → Bool) (l : List Nat) :
    allPhase s p l = true ↔ ∀ c, c ∈ l → p (s.c c).phase = true := by
  simp [allPhase, List.all_eq_true]

@[simp] theorem Mode.ne_graceful (m : Mode) : (¬ m = .graceful) ↔ m = .forced := by cases m <;> simp
@[simp] theorem Mode.ne_forced (m : Mode) : (¬ m = .forced) ↔ m = .graceful := by cases m <;> simp

@[simp] theorem WaitRes.ne_complete (r : WaitRes) : (¬ r = .complete) ↔ r = .timeout := by cases r <;> simp
@[simp] theorem WaitRes.ne_timeout (r : WaitRes) : (¬ r = .timeout) ↔ r = .complete := by cases r <;> simp

variable {cfg : Cfg} {s s' : State} {e : Event} {es : List Event}

/-- Opens `hs : step cfg s e = some s'` for the event at hand: one goal per successful branch, `s'` replaced
    by the explicit successor state. -/
macro "open_step" hs:ident : tactic =>
  `(tactic| (simp only [step] at $hs:ident; (repeat' split at $hs:ident);
             all_goals (first | (cases $hs:ident; done) | skip); all_goals (cases $hs:ident)))

/-- `step` as a relation: one constructor per successful branch, its guard as hypotheses, the successor
    written out (`startConn` unfolded; where a worker changes, its update outermost). The invariants below are
    proved by cases on it — by `induction`, which for a type that is not recursive is `cases` without the
    bookkeeping for the indices. -/
inductive Step (cfg : Cfg) (s : State) : Event → State → Prop
  | call (m : Mode) : Step cfg s (.call m) (s.setAcc { s.acc with calls := s.acc.calls ++ [m] })
  | cmdSent : Step cfg s .cmdSent (s.setAcc { s.acc with cmdVisible := true })
  | returned (hr : s.acc.resolved = true) :
    Step cfg s .returned (s.setAcc { s.acc with returned := s.acc.returned + 1 })
  | handleDone (hp : s.acc.phase = .exited) :
    Step cfg s .handleDone (s.setAcc { s.acc with handleDone := true })
  | accept (c : Nat) (hp : s.acc.phase = .listening) (hcur : s.acc.cur = none)
      (hv : s.acc.cmdVisible = false) (hc : (s.c c).phase = .unseen) :
    Step cfg s (.accept c)
      ((s.setAcc { s.acc with cur := some c, tries := 0 }).setC c { s.c c with phase := .accepted })
  | dispatchOk (w c : Nat) (hp : s.acc.phase = .listening) (hcur : s.acc.cur = some c)
      (ht : s.acc.tries < cfg.n) (hw : w = s.acc.next) (hn : w < cfg.n)
      (hcl : (s.w w).closed = false) (hq : (s.w w).queue.length < cfg.cap) :
    Step cfg s (.dispatch c w .ok) (((s.setAcc { s.acc with cur := none }).setC c
      { s.c c with phase := .queued, worker := w }).setW w
      { s.w w with queue := (s.w w).queue ++ [c], dispatched := (s.w w).dispatched ++ [c] })
  | dispatchFull (w c : Nat) (hp : s.acc.phase = .listening) (hcur : s.acc.cur = some c)
      (ht : s.acc.tries < cfg.n) (hw : w = s.acc.next) (hn : w < cfg.n)
      (hcl : (s.w w).closed = false) (hq : cfg.cap ≤ (s.w w).queue.length) :
    Step cfg s (.dispatch c w .full)
      (s.setAcc { s.acc with next := (s.acc.next + 1) % cfg.n, tries := s.acc.tries + 1 })
  | dispatchClosed (w c : Nat) (hp : s.acc.phase = .listening) (hcur : s.acc.cur = some c)
      (ht : s.acc.tries < cfg.n) (hw : w = s.acc.next) (hn : w < cfg.n)
      (hcl : (s.w w).closed = true) :
    Step cfg s (.dispatch c w .closed)
      ((s.setAcc { s.acc with next := (s.acc.next + 1) % cfg.n, tries := s.acc.tries + 1 }).setW
        w {})
  | dropConn (c : Nat) (hp : s.acc.phase = .listening) (hcur : s.acc.cur = some c)
      (ht : s.acc.tries = cfg.n) :
    Step cfg s (.dropConn c)
      ((s.setAcc { s.acc with cur := none }).setC c { s.c c with phase := .dropped })
  | accShutdown (m : Mode) (hp : s.acc.phase = .listening) (hcur : s.acc.cur = none)
      (hm : m ∈ s.acc.calls) :
    Step cfg s (.accShutdown m)
      (s.setAcc { s.acc with phase := .sending m 0, calls := s.acc.calls.erase m, mode := some m })
  | accSend (i : Nat) (m : Mode) (hp : s.acc.phase = .sending m i) (hi : i < cfg.n) :
    Step cfg s (.accSend i) ((s.setAcc { s.acc with phase := .sending m (i + 1) }).setW i
      { s.w i with cmds := (s.w i).cmds ++ [m] })
  | accWaitStart (hp : s.acc.phase = .sending .graceful cfg.n) :
    Step cfg s .accWaitStart (s.setAcc { s.acc with phase := .waiting })
  | accWaitEnd (r : WaitRes) (hp : s.acc.phase = .waiting)
      (hr : r = .complete → allNotified s cfg.n = true) :
    Step cfg s (.accWaitEnd r)
      (s.setAcc { s.acc with phase := .finishing, timedOut := decide (r = .timeout) })
  | accNotify (hp : s.acc.phase = .finishing ∨ s.acc.phase = .sending .forced cfg.n) :
    Step cfg s .accNotify (s.setAcc { s.acc with phase := .notified, resolved := true })
  | accExit (hp : s.acc.phase = .notified) :
    Step cfg s .accExit (s.setAcc { s.acc with phase := .exited })
  | wRecv (w c : Nat) (rest : List Nat) (hp : (s.w w).phase = .running)
      (hq : (s.w w).queue = c :: rest) (hn : w < cfg.n) (hcm : (s.w w).cmds = []) :
    Step cfg s (.wRecv w c) ((s.setC c { s.c c with phase := .spawned, worker := w }).setW w
      { s.w w with
        queue := rest, started := (s.w w).started ++ [c]
        drainedAny := (s.w w).drainedAny || false })
  | wGraceful (w : Nat) (rest : List Mode) (hp : (s.w w).phase = .running)
      (hcm : (s.w w).cmds = .graceful :: rest) (hn : w < cfg.n) :
    Step cfg s (.wShutdown w .graceful)
      (s.setW w { s.w w with cmds := rest, forced := false, phase := .closing })
  | wForced (w : Nat) (rest : List Mode) (hp : (s.w w).phase = .running)
      (hcm : (s.w w).cmds = .forced :: rest) (hn : w < cfg.n) :
    Step cfg s (.wShutdown w .forced)
      (s.setW w { s.w w with cmds := rest, forced := true, phase := .finishing })
  | wClose (w : Nat) (hp : (s.w w).phase = .closing) :
    Step cfg s (.wClose w) (s.setW w { s.w w with phase := .draining, closed := true })
  | wDrain (w c : Nat) (rest : List Nat) (hp : (s.w w).phase = .draining)
      (hq : (s.w w).queue = c :: rest) :
    Step cfg s (.wDrain w c) ((s.setC c { s.c c with phase := .spawned, worker := w }).setW w
      { s.w w with
        queue := rest, started := (s.w w).started ++ [c]
        drainedAny := (s.w w).drainedAny || true })
  | wDrainEnd (w : Nat) (hp : (s.w w).phase = .draining) (hq : (s.w w).queue = []) :
    Step cfg s (.wDrainEnd w) (s.setW w { s.w w with phase := .drained })
  | wSignal (w : Nat) (hp : (s.w w).phase = .drained)
      (hy : cfg.yields (s.w w) = true →
        allPhase s (fun p => p != .spawned) (s.w w).started = true) :
    Step cfg s (.wSignal w) (s.setW w { s.w w with phase := .waiting, signalled := true })
  | wWaitEnd (w : Nat) (r : WaitRes) (hp : (s.w w).phase = .waiting)
      (hr : r = .complete → allPhase s (fun p => p == .ended) (s.w w).started = true) :
    Step cfg s (.wWaitEnd w r)
      (s.setW w { s.w w with phase := .finishing, timedOut := decide (r = .timeout) })
  | wNotify (w : Nat) (hp : (s.w w).phase = .finishing) :
    Step cfg s (.wNotify w)
      (s.setW w { s.w w with phase := .exited, notified := true, closed := true })
  | cPollLate (c : Nat) (hc : (s.c c).phase = .spawned) (ha : workerAlive s c = true)
      (hsig : (s.w (s.c c).worker).signalled = true) :
    Step cfg s (.cPoll c) (s.setC c { s.c c with phase := .doomed, cancelled := true })
  | cPoll (c : Nat) (hc : (s.c c).phase = .spawned) (ha : workerAlive s c = true)
      (hsig : ¬ (s.w (s.c c).worker).signalled = true) :
    Step cfg s (.cPoll c) (s.setC c { s.c c with phase := .idle })
  | hBegin (c : Nat) (hc : (s.c c).phase = .idle) (hsig : (s.w (s.c c).worker).signalled = false)
      (ha : workerAlive s c = true) :
    Step cfg s (.hBegin c (s.c c).begun)
      (s.setC c { s.c c with phase := .inflight, begun := (s.c c).begun + 1 })
  | hEnd (c r : Nat) (hc : (s.c c).phase = .inflight) (hr : r + 1 = (s.c c).begun)
      (ha : workerAlive s c = true) :
    Step cfg s (.hEnd c r) (s.setC c
      { s.c c with
        phase := .idle, served := (s.c c).served + (if s.acc.phase = .exited then 0 else 1) })
  | cEnd (c : Nat) (ok : Bool)
      (h1 : ok = true →
        ((s.c c).phase = .idle ∨ (s.c c).phase = .inflight ∨ (s.c c).phase = .doomed) ∧
          workerAlive s c = true)
      (h2 : ok = false →
        ((s.c c).phase = .spawned ∨ (s.c c).phase = .idle ∨ (s.c c).phase = .inflight ∨
          (s.c c).phase = .doomed) ∧ workerAlive s c = false) :
    Step cfg s (.cEnd c ok) (s.setC c { s.c c with phase := .ended, completed := ok })

theorem Step.of_step (hs : step cfg s e = some s') : Step cfg s e s' := by
  cases e
  -- `hEnd` by hand: `open_step` would also split the `if` inside its successor
  case hEnd c r =>
    simp only [step, Option.ite_none_right_eq_some, Option.some.injEq] at hs
    obtain ⟨⟨h1, h2, h3⟩, rfl⟩ := hs
    exact .hEnd c r h1 h2 h3
  -- every other event: one goal per branch of `step` that returns `some`, the guards passed on the way as hypotheses
  all_goals open_step hs
  -- a guard is a conjunction of what the constructor takes as separate hypotheses
  all_goals (repeat cases ‹_ ∧ _›)
  -- `wShutdown w m`: the branch under `¬ m = .graceful` is the one for `.forced`
  all_goals (try simp only [Mode.ne_graceful] at *)
  -- an equation in a guard says which argument the event carries (`w = i` in `accSend`, `c' = c` in `wRecv` and
  -- `wDrain`, `m' = m` in `wShutdown`, `r = begun` in `hBegin`)
  all_goals subst_vars
  -- the constructor named like the event; `dispatch`, `wShutdown` and `cPoll` have one per branch, and only the one
  -- whose successor is that of the branch unifies
  all_goals (constructor <;> first | assumption | rfl)

theorem Step.to_step (hs : Step cfg s e s') : step cfg s e = some s' := by
  induction hs with
  | dispatchOk _ _ _ _ _ hw =>
    subst hw
    simp [step, *]
    -- `step` writes the successor with the two updates in the other order
    rfl
  | dispatchFull _ _ _ _ _ hw | dispatchClosed _ _ _ _ _ hw =>
    subst hw
    simp [step, *]
  | wRecv _ _ _ hp hq hn hcm =>
    simp only [step, hq]
    exact (if_pos ⟨hn, hp, hcm, trivial⟩).trans rfl
  | wDrain _ _ _ hp hq =>
    simp only [step, hq]
    exact (if_pos ⟨hp, trivial⟩).trans rfl
  | accWaitEnd | wSignal | wWaitEnd =>
    simp [step, *]
    -- left: the second conjunct of the guard, an implication, which is a hypothesis as it stands
    assumption
  | cEnd _ _ h1 h2 =>
    simp only [step]
    exact if_pos ⟨h1, h2⟩
  | _ => simp [step, *]

theorem run_cons (h : run cfg s (e :: es) = some s') :
    ∃ s₁, step cfg s e = some s₁ ∧ run cfg s₁ es = some s' := by
  simp only [run] at h
  split at h
  · exact ⟨_, ‹_›, h⟩
  · cases h

theorem run_cons_of {s₁ : State} (h1 : step cfg s e = some s₁)
    (h2 : run cfg s₁ es = some s') : run cfg s (e :: es) = some s' := by
  simp only [run, h1, h2]

theorem Step.run {s₁ : State} (hs : Step cfg s e s₁) (hr : run cfg s₁ es = some s') :
    run cfg s (e :: es) = some s' :=
  run_cons_of hs.to_step hr

theorem run_append {es₁ es₂ : List Event} (h : run cfg s (es₁ ++ es₂) = some s') :
    ∃ s₁, run cfg s es₁ = some s₁ ∧ run cfg s₁ es₂ = some s' := by
  induction es₁ generalizing s with
  | nil => exact ⟨s, rfl, h⟩
  | cons e es ih =>
    obtain ⟨s₁, h1, h2⟩ := run_cons h
    obtain ⟨s₂, h3, h4⟩ := ih h2
    exact ⟨s₂, run_cons_of h1 h3, h4⟩

theorem run_append_of {es₁ es₂ : List Event} {s₁ : State} (h1 : run cfg s es₁ = some s₁)
    (h2 : run cfg s₁ es₂ = some s') : run cfg s (es₁ ++ es₂) = some s' := by
  induction es₁ generalizing s with
  | nil => cases h1; exact h2
  | cons e es ih =>
    obtain ⟨s₂, h3, h4⟩ := run_cons h1
    exact run_cons_of h3 (ih h4)

theorem run_invariant {P : State → Prop}
    (hP : ∀ {s : State} {e : Event} {s' : State}, P s → step cfg s e = some s' → P s')
    (h : P s) (hr : run cfg s es = some s') : P s' := by
  induction es generalizing s with
  | nil => cases hr; exact h
  | cons e es ih =>
    obtain ⟨s₁, h1, h2⟩ := run_cons hr
    exact ih (hP h h1) h2

/-- Has the acceptor already sent the shutdown command to worker `w`? -/
def sentTo : APhase → Nat → Prop
  | .listening, _ => False
  | .sending _ i, w => w < i
  | _, _ => True

/-- A worker that has not been told anything yet. -/
def Worker.pristine (W : Worker) : Prop :=
  W.phase = .running ∧ W.cmds = [] ∧ W.closed = false ∧ W.signalled = false ∧ W.notified = false ∧
    W.forced = false ∧ W.timedOut = false

theorem Worker.pristine.phase {W : Worker} (h : W.pristine) : W.phase = .running := h.1

theorem Worker.pristine.cmds {W : Worker} (h : W.pristine) : W.cmds = [] := h.2.1

theorem Worker.pristine.closed {W : Worker} (h : W.pristine) : W.closed = false := h.2.2.1

theorem Worker.pristine.signalled {W : Worker} (h : W.pristine) : W.signalled = false := h.2.2.2.1

/-- A worker is touched by the shutdown protocol only after the acceptor sent it the command. -/
def Coupling (s : State) : Prop := ∀ w, ¬ sentTo s.acc.phase w → (s.w w).pristine

theorem coupling_init : Coupling init := by
  intro w _; simp [init, Worker.pristine]

theorem Coupling.listening (h : Coupling s) (hp : s.acc.phase = .listening) (w : Nat) :
    (s.w w).pristine :=
  h w (by simp [hp, sentTo])

theorem Coupling.not_closed (h : Coupling s) (hp : s.acc.phase = .listening) (w : Nat) :
    (s.w w).closed = false :=
  (h.listening hp w).closed

theorem Coupling.setW {i : Nat} {W : Worker} (h : Coupling s)
    (hW : (s.w i).pristine → W.pristine) : Coupling (s.setW i W) := by
  intro w hw
  rw [setW_w]; split
  · next e => exact hW (e ▸ h w hw)
  · exact h w hw

theorem coupling_step (h : Coupling s) (hs : Step cfg s e s') : Coupling s' := by
  induction hs with
  | accShutdown m hp => exact fun j _ => h.listening hp j
  | accWaitStart | accWaitEnd | accNotify | accExit => exact fun _ hj => (hj trivial).elim
  | accSend i m hp =>
    -- a worker not sent to after this send is not the one sent to now, and was not sent to before
    intro j hj
    have hji : ¬ j < i + 1 := hj
    have hj' : ¬ sentTo s.acc.phase j := by
      rw [hp]
      show ¬ j < i
      omega
    rw [setW_w_ne _ _ (by omega)]
    exact h j hj'
  | dispatchOk | wRecv | wDrain => exact h.setW id
  | dispatchClosed => exact h.setW fun _ => ⟨rfl, rfl, rfl, rfl, rfl, rfl, rfl⟩
  | wGraceful _ _ _ hcm | wForced _ _ _ hcm => exact h.setW fun hW => by simp [hW.cmds] at hcm
  | wClose _ hp | wDrainEnd _ hp | wSignal _ hp | wWaitEnd _ _ hp | wNotify _ hp =>
    exact h.setW fun hW => by simp [hW.phase] at hp
  | _ => exact h

/-- Per-worker coherence of phase and flags. -/
def WFlags (s : State) : Prop := ∀ w,
  ((s.w w).signalled = true → (s.w w).phase = .waiting ∨ (s.w w).phase = .finishing ∨ (s.w w).phase = .exited) ∧
  ((s.w w).forced = true → (s.w w).phase = .finishing ∨ (s.w w).phase = .exited) ∧
  ((s.w w).notified = true ↔ (s.w w).phase = .exited) ∧
  ((s.w w).timedOut = true → (s.w w).phase = .finishing ∨ (s.w w).phase = .exited) ∧
  ((s.w w).phase = .exited → (s.w w).closed = true) ∧
  ((s.w w).phase = .waiting → (s.w w).signalled = true)

theorem wflags_init : WFlags init := by
  intro w; simp [init]

theorem WFlags.signalled (h : WFlags s) {w : Nat} (hs : (s.w w).signalled = true) :
    (s.w w).phase = .waiting ∨ (s.w w).phase = .finishing ∨ (s.w w).phase = .exited :=
  (h w).1 hs

theorem WFlags.forced (h : WFlags s) {w : Nat} (hf : (s.w w).forced = true) :
    (s.w w).phase = .finishing ∨ (s.w w).phase = .exited :=
  (h w).2.1 hf

theorem WFlags.notified_iff (h : WFlags s) (w : Nat) :
    (s.w w).notified = true ↔ (s.w w).phase = .exited :=
  (h w).2.2.1

theorem WFlags.setW {i : Nat} {W : Worker} (h : WFlags s)
    (hW : (W.signalled = true → W.phase = .waiting ∨ W.phase = .finishing ∨ W.phase = .exited) ∧
      (W.forced = true → W.phase = .finishing ∨ W.phase = .exited) ∧
      (W.notified = true ↔ W.phase = .exited) ∧
      (W.timedOut = true → W.phase = .finishing ∨ W.phase = .exited) ∧
      (W.phase = .exited → W.closed = true) ∧
      (W.phase = .waiting → W.signalled = true)) :
    WFlags (s.setW i W) := by
  intro w
  rw [setW_w]; split
  · exact hW
  · exact h w

theorem wflags_step (h : WFlags s) (hs : Step cfg s e s') : WFlags s' := by
  induction hs with
  | dispatchOk w | accSend w | wRecv w | wDrain w => exact h.setW (h w)
  | dispatchClosed => exact h.setW (by simp)
  | wGraceful w | wForced w | wClose w | wDrainEnd w | wSignal w | wWaitEnd w | wNotify w =>
    -- `w` moves on by one phase and sets the flag that goes with the new one
    have := h w
    exact h.setW (by grind)
  | _ => exact h

/-- Coherence of the acceptor's phase, mode and flags. -/
def AFlags (cfg : Cfg) (s : State) : Prop :=
  (s.acc.resolved = true ↔ (s.acc.phase = .notified ∨ s.acc.phase = .exited)) ∧
  (∀ m i, s.acc.phase = .sending m i → s.acc.mode = some m ∧ i ≤ cfg.n) ∧
  (s.acc.phase = .waiting ∨ s.acc.phase = .finishing → s.acc.mode = some .graceful) ∧
  (s.acc.phase = .listening → s.acc.mode = none) ∧
  (s.acc.timedOut = true → s.acc.mode = some .graceful) ∧
  (0 < s.acc.returned → s.acc.resolved = true) ∧
  (s.acc.handleDone = true → s.acc.phase = .exited)

theorem aflags_init (cfg : Cfg) : AFlags cfg init := by
  simp [AFlags, init]

theorem AFlags.resolved_iff (h : AFlags cfg s) :
    s.acc.resolved = true ↔ (s.acc.phase = .notified ∨ s.acc.phase = .exited) :=
  h.1

theorem AFlags.sending (h : AFlags cfg s) {m : Mode} {i : Nat} (hp : s.acc.phase = .sending m i) :
    s.acc.mode = some m ∧ i ≤ cfg.n :=
  h.2.1 m i hp

theorem AFlags.waited (h : AFlags cfg s)
    (hp : s.acc.phase = .waiting ∨ s.acc.phase = .finishing) : s.acc.mode = some .graceful :=
  h.2.2.1 hp

theorem AFlags.returned (h : AFlags cfg s) (hr : 0 < s.acc.returned) : s.acc.resolved = true :=
  h.2.2.2.2.2.1 hr

theorem AFlags.handleDone (h : AFlags cfg s) (hd : s.acc.handleDone = true) :
    s.acc.phase = .exited :=
  h.2.2.2.2.2.2 hd

theorem aflags_step (h : AFlags cfg s) (hs : Step cfg s e s') : AFlags cfg s' := by
  obtain ⟨a1, a2, a3, a4, a5, a6, a7⟩ := h
  induction hs with
  | returned hr => exact ⟨a1, a2, a3, a4, a5, fun _ => hr, a7⟩
  | handleDone hp => exact ⟨a1, a2, a3, a4, a5, a6, fun _ => hp⟩
  | accShutdown | accSend | accWaitStart | accWaitEnd | accNotify | accExit =>
    simp only [AFlags, setAcc_acc, setW_acc]
    grind
  | _ => exact ⟨a1, a2, a3, a4, a5, a6, a7⟩

/-- The dispatch loop's counters stay in range. -/
def Ranges (cfg : Cfg) (s : State) : Prop :=
  (0 < cfg.n → s.acc.next < cfg.n) ∧ s.acc.tries ≤ cfg.n

theorem ranges_init (cfg : Cfg) : Ranges cfg init := by
  simp [Ranges, init]

theorem ranges_step (h : Ranges cfg s) (hs : Step cfg s e s') : Ranges cfg s' := by
  induction hs with
  | accept => exact ⟨h.1, Nat.zero_le _⟩
  | dispatchFull _ _ _ _ ht | dispatchClosed _ _ _ _ ht => exact ⟨fun hn => Nat.mod_lt _ hn, ht⟩
  | _ => exact h

/-- Phases of a connection that some worker has taken over. -/
def goingPhase (p : CPhase) : Prop := p = .spawned ∨ p = .idle ∨ p = .inflight ∨ p = .doomed ∨ p = .ended

/-- Where a connection is according to the acceptor / the workers agrees with its own phase. -/
def Links (s : State) : Prop :=
  (∀ c, s.acc.cur = some c → (s.c c).phase = .accepted) ∧
  (∀ w c, c ∈ (s.w w).queue → (s.c c).phase = .queued ∧ (s.c c).worker = w) ∧
  (∀ w, (s.w w).queue.Nodup) ∧
  (∀ w c, c ∈ (s.w w).started → (s.c c).worker = w ∧ goingPhase (s.c c).phase)

theorem links_init : Links init := by
  simp [Links, init]

theorem Links.cur (h : Links s) (c : Nat) (hc : s.acc.cur = some c) : (s.c c).phase = .accepted :=
  h.1 c hc

theorem Links.queued (h : Links s) (w c : Nat) (hc : c ∈ (s.w w).queue) :
    (s.c c).phase = .queued ∧ (s.c c).worker = w := h.2.1 w c hc

theorem Links.nodup (h : Links s) (w : Nat) : (s.w w).queue.Nodup := h.2.2.1 w

theorem Links.started (h : Links s) (w c : Nat) (hc : c ∈ (s.w w).started) :
    (s.c c).worker = w ∧ goingPhase (s.c c).phase := h.2.2.2 w c hc

theorem Links.setAcc (h : Links s) {a : Acc}
    (h1 : ∀ c, a.cur = some c → (s.c c).phase = .accepted) : Links (s.setAcc a) :=
  ⟨h1, h.2⟩

theorem Links.setC {k : Nat} {C : Conn} (h : Links s)
    (h1 : s.acc.cur = some k → C.phase = .accepted)
    (h2 : ∀ w, k ∈ (s.w w).queue → C.phase = .queued ∧ C.worker = w)
    (h4 : ∀ w, k ∈ (s.w w).started → C.worker = w ∧ goingPhase C.phase) :
    Links (s.setC k C) := by
  refine ⟨?cur, ?queued, h.nodup, ?started⟩
  case cur =>
    intro c hc
    rw [setC_c]; split
    · next e => exact h1 (e ▸ hc)
    · exact h.cur c hc
  case queued =>
    intro w c hc
    rw [setC_c]; split
    · next e => exact h2 w (e ▸ hc)
    · exact h.queued w c hc
  case started =>
    intro w c hc
    rw [setC_c]; split
    · next e => exact h4 w (e ▸ hc)
    · exact h.started w c hc

/-- A connection that is not in hand, in no queue and started by no worker may get any record. -/
theorem Links.setC_fresh {k : Nat} (h : Links s) (C : Conn) (h1 : s.acc.cur ≠ some k)
    (h2 : (s.c k).phase ≠ .queued) (h4 : ¬ goingPhase (s.c k).phase) : Links (s.setC k C) :=
  h.setC (fun e => absurd e h1) (fun w e => absurd (h.queued w k e).1 h2)
    (fun w e => absurd (h.started w k e).2 h4)

/-- A connection some worker has taken over may move to another such phase, with the same worker. -/
theorem Links.setC_going {k : Nat} {C : Conn} (h : Links s) (hk : goingPhase (s.c k).phase)
    (hC : goingPhase C.phase) (hw : C.worker = (s.c k).worker) : Links (s.setC k C) := by
  refine h.setC (fun e => ?_) (fun w e => ?_) (fun w e => ⟨hw ▸ (h.started w k e).1, hC⟩)
  · simp [goingPhase, h.cur k e] at hk
  · simp [goingPhase, (h.queued w k e).1] at hk

theorem Links.setW {i : Nat} {W : Worker} (h : Links s)
    (h2 : ∀ c, c ∈ W.queue → (s.c c).phase = .queued ∧ (s.c c).worker = i)
    (h3 : W.queue.Nodup)
    (h4 : ∀ c, c ∈ W.started → (s.c c).worker = i ∧ goingPhase (s.c c).phase) :
    Links (s.setW i W) := by
  refine ⟨h.cur, ?queued, ?nodup, ?started⟩
  case queued =>
    intro w c
    rw [setW_w]; split
    · next e => exact e ▸ h2 c
    · exact h.queued w c
  case nodup =>
    intro w
    rw [setW_w]; split
    · exact h3
    · exact h.nodup w
  case started =>
    intro w c
    rw [setW_w]; split
    · next e => exact e ▸ h4 c
    · exact h.started w c

/-- `Links` survives `handle_connection`: the head `c` of worker `w`'s inbox becomes a spawned task of `w`. -/
theorem Links.start {w c : Nat} {rest : List Nat} {W : Worker} {C : Conn} (h : Links s)
    (hq : (s.w w).queue = c :: rest) (hWq : W.queue = rest)
    (hWs : W.started = (s.w w).started ++ [c]) (hp : C.phase = .spawned) (hw : C.worker = w) :
    Links ((s.setW w W).setC c C) := by
  -- `c` is queued at `w`, and there once: it is not in hand, in no other queue and started nowhere,
  -- so whatever else is listed reads a record that has not changed
  have hc : (s.c c).phase = .queued ∧ (s.c c).worker = w :=
    h.queued w c (hq ▸ List.mem_cons_self)
  have hnd : c ∉ rest ∧ rest.Nodup := List.nodup_cons.1 (hq ▸ h.nodup w)
  obtain ⟨h1, h2, h3, h4⟩ := h
  simp only [Links, goingPhase, setW_acc, setW_w, setW_c, setC_acc, setC_w, setC_c] at *
  grind

/-- The connection in hand leaves the acceptor's hand with any record. -/
theorem Links.unhand {c : Nat} (h : Links s) (hcur : s.acc.cur = some c) (C : Conn) :
    Links ((s.setAcc { s.acc with cur := none }).setC c C) := by
  -- it is `accepted`: in no queue, started by no worker
  have hc := h.cur c hcur
  have hnq : (s.c c).phase ≠ .queued := by simp [hc]
  have hng : ¬ goingPhase (s.c c).phase := by simp [goingPhase, hc]
  have h0 : Links (s.setAcc { s.acc with cur := none }) := h.setAcc nofun
  exact h0.setC_fresh C nofun hnq hng

theorem links_step (h : Links s) (hs : Step cfg s e s') : Links s' := by
  induction hs with
  | accept c _ hcur _ hc =>
    -- `c` was unseen: not in hand, in no queue, started by no worker
    have hnh : s.acc.cur ≠ some c := by simp [hcur]
    have hnq : (s.c c).phase ≠ .queued := by simp [hc]
    have hng : ¬ goingPhase (s.c c).phase := by simp [goingPhase, hc]
    have h' : Links (s.setC c { s.c c with phase := .accepted }) := h.setC_fresh _ hnh hnq hng
    refine h'.setAcc fun c' e => ?_
    cases e
    rw [setC_c_self]
  | dropConn c _ hcur => exact h.unhand hcur _
  | dispatchOk w c _ hcur =>
    have h' := h.unhand hcur { s.c c with phase := .queued, worker := w }
    -- `c` is `accepted`: it is not among the queued or the started of `w`
    have hc := h.cur c hcur
    have hcq : c ∉ (s.w w).queue := fun hm => by simp [(h.queued w c hm).1] at hc
    have hcs : c ∉ (s.w w).started := fun hm => by
      simpa [goingPhase, hc] using (h.started w c hm).2
    refine h'.setW ?queued ?nodup ?started
    case queued =>
      intro c' hc'
      rw [setC_c]; split
      · exact ⟨rfl, rfl⟩
      · next hne => exact h.queued w c' (by simpa [hne] using hc')
    case nodup =>
      refine List.nodup_append.2 ⟨h.nodup w, by simp, fun a ha b hb hab => hcq ?_⟩
      rw [List.mem_singleton.1 hb] at hab
      exact hab ▸ ha
    case started =>
      intro c' hc'
      rw [setC_c_ne _ _ fun (e : c' = c) => hcs (e ▸ hc')]
      exact h.started w c' hc'
  | dispatchClosed w _ _ hcur => exact (h.setAcc h.cur).setW (by simp) .nil (by simp)
  | accSend w | wGraceful w | wForced w | wClose w | wDrainEnd w | wSignal w | wWaitEnd w
  | wNotify w => exact h.setW (h.queued _) (h.nodup _) (h.started _)
  | wRecv w c rest _ hq | wDrain w c rest _ hq => exact h.start hq rfl rfl rfl rfl
  | cPollLate c hc | cPoll c hc | hBegin c hc | hEnd c _ hc =>
    exact h.setC_going (by simp [goingPhase, hc]) (by simp [goingPhase]) rfl
  | cEnd c ok h1 h2 =>
    have hk : goingPhase (s.c c).phase := by
      cases ok with
      | true => rcases (h1 rfl).1 with hc | hc | hc <;> simp [goingPhase, hc]
      | false => rcases (h2 rfl).1 with hc | hc | hc | hc <;> simp [goingPhase, hc]
    exact h.setC_going hk (by simp [goingPhase]) rfl
  | _ => exact h

/-- FIFO conservation — what was dispatched to a worker is what it started plus what is still queued. -/
def Conserv (s : State) : Prop := ∀ w, (s.w w).dispatched = (s.w w).started ++ (s.w w).queue

theorem conserv_init : Conserv init := by
  intro w; simp [init]

theorem Conserv.setW {i : Nat} {W : Worker} (h : Conserv s)
    (hW : W.dispatched = W.started ++ W.queue) : Conserv (s.setW i W) := by
  intro w
  rw [setW_w]; split
  · exact hW
  · exact h w

theorem conserv_step (h : Conserv s) (hs : Step cfg s e s') : Conserv s' := by
  induction hs with
  | dispatchOk w => exact h.setW (by simp [h w])
  | dispatchClosed => exact h.setW rfl
  | wRecv w _ _ _ hq | wDrain w _ _ _ hq => exact h.setW (by simp [h w, hq])
  | accSend w | wGraceful w | wForced w | wClose w | wDrainEnd w | wSignal w | wWaitEnd w
  | wNotify w => exact h.setW (h w)
  | _ => exact h

/-- The worker is past its drain loop (Graceful arm). -/
def pastDrain (W : Worker) : Prop :=
  W.phase = .drained ∨ W.phase = .waiting ∨ ((W.phase = .finishing ∨ W.phase = .exited) ∧ W.forced = false)

/-- Past the drain loop the inbox is empty. -/
def Drained (s : State) : Prop := ∀ w, pastDrain (s.w w) → (s.w w).queue = []

theorem drained_init : Drained init := by
  intro w; simp [init, pastDrain]

theorem Drained.setW {i : Nat} {W : Worker} (h : Drained s) (hW : pastDrain W → W.queue = []) :
    Drained (s.setW i W) := by
  intro w
  rw [setW_w]; split
  · exact hW
  · exact h w

theorem drained_step (h : Drained s) (hc : Coupling s)
    (hs : Step cfg s e s') : Drained s' := by
  induction hs with
  | dispatchOk w _ hp =>
    -- the acceptor listens, so the worker has not been told anything: it is still running
    refine h.setW fun hW => ?_
    simp [pastDrain, (hc.listening hp w).phase] at hW
  | dispatchClosed | wGraceful | wForced | wClose =>
    -- the new phase is before the drain loop, or the worker is forced
    exact h.setW fun hW => by simp [pastDrain] at hW
  | wRecv _ _ _ hp | wDrain _ _ _ hp => exact h.setW fun hW => by simp [pastDrain, hp] at hW
  | accSend w => exact h.setW (h w)
  | wDrainEnd _ _ hq => exact h.setW fun _ => hq
  | wSignal w hp | wWaitEnd w _ hp => exact h.setW fun _ => h w (by simp [pastDrain, hp])
  | wNotify w hp => exact h.setW fun hW => h w (by simpa [pastDrain, hp] using hW)
  | _ => exact h

/-- How a Graceful shutdown can have got past the acceptor's wait. -/
def Resol (cfg : Cfg) (s : State) : Prop :=
  (s.acc.phase = .finishing ∨ s.acc.phase = .notified ∨ s.acc.phase = .exited) → s.acc.mode = some .graceful →
    (∀ w, w < cfg.n → (s.w w).notified = true) ∨ s.acc.timedOut = true

theorem resol_init (cfg : Cfg) : Resol cfg init := by
  simp [Resol, init]

theorem Resol.setW {i : Nat} {W : Worker} (h : Resol cfg s)
    (hW : (s.w i).notified = true → W.notified = true) : Resol cfg (s.setW i W) := by
  refine fun hp hm => (h hp hm).imp_left fun hn w hw => ?_
  rw [setW_w]; split
  · next e => exact hW (e ▸ hn w hw)
  · exact hn w hw

theorem resol_step (h : Resol cfg s) (ha : AFlags cfg s)
    (hs : Step cfg s e s') : Resol cfg s' := by
  induction hs with
  | accWaitEnd r _ hr =>
    intro _ _
    cases r
    · exact .inl ((allNotified_iff _ _).1 (hr rfl))
    · exact .inr rfl
  | accNotify hp =>
    intro _ hm
    rcases hp with hp | hp
    · exact h (.inl hp) hm
    · simp [(ha.sending hp).1] at hm
  | accExit hp => exact fun _ => h (.inr (.inl hp))
  | accShutdown | accSend | accWaitStart => exact fun hp => by simp at hp
  | dispatchOk _ _ hp | dispatchClosed _ _ hp => exact fun hp' => by simp [hp] at hp'
  | wRecv | wDrain | wGraceful | wForced | wClose | wDrainEnd | wSignal | wWaitEnd =>
    exact h.setW id
  | wNotify => exact h.setW fun _ => rfl
  | _ => exact h

/-- How a worker can have got past its Graceful wait. -/
def WDone (s : State) : Prop := ∀ w,
  ((s.w w).phase = .finishing ∨ (s.w w).phase = .exited) → (s.w w).forced = false →
    (∀ c, c ∈ (s.w w).started → (s.c c).phase = .ended) ∨ (s.w w).timedOut = true

theorem wdone_init : WDone init := by
  intro w; simp [init]

theorem WDone.setC {k : Nat} {C : Conn} (h : WDone s)
    (hC : (s.c k).phase = .ended → C.phase = .ended) : WDone (s.setC k C) := by
  refine fun w hp hf => (h w hp hf).imp_left fun ha c hc => ?_
  rw [setC_c]; split
  · next e => exact hC (e ▸ ha c hc)
  · exact ha c hc

theorem WDone.setW {i : Nat} {W : Worker} (h : WDone s)
    (hW : (W.phase = .finishing ∨ W.phase = .exited) → W.forced = false →
      (∀ c, c ∈ W.started → (s.c c).phase = .ended) ∨ W.timedOut = true) :
    WDone (s.setW i W) := by
  intro w
  rw [setW_w]; split
  · exact hW
  · exact h w

theorem wdone_step (h : WDone s) (hl : Links s) (hs : Step cfg s e s') : WDone s' := by
  induction hs with
  | accept c _ _ _ hc | cPollLate c hc | cPoll c hc | hBegin c hc | hEnd c _ hc =>
    exact h.setC fun e => by simp [hc] at e
  | dropConn c _ hcur => exact h.setC fun e => by simp [hl.cur c hcur] at e
  | cEnd => exact h.setC fun _ => rfl
  | dispatchOk w c _ hcur =>
    have h' := h.setC (k := c) (C := { s.c c with phase := .queued, worker := w }) fun e => by
      simp [hl.cur c hcur] at e
    exact h'.setW (h' w)
  | accSend w => exact h.setW (h w)
  | dispatchClosed | wGraceful | wClose | wDrainEnd | wSignal =>
    exact h.setW fun hp => by simp at hp
  | wForced => exact h.setW fun _ hf => by simp at hf
  | wRecv w c _ hp hq | wDrain w c _ hp hq =>
    -- `c` was queued, not ended; `w` is still running or draining
    have hc := (hl.queued w c (hq ▸ List.mem_cons_self ..)).1
    exact (h.setC fun e => by simp [hc] at e).setW fun hp' => by simp [hp] at hp'
  | wWaitEnd w r _ hr =>
    refine h.setW fun _ _ => ?_
    cases r
    · exact .inl fun c hc => by simpa using (allPhase_iff ..).1 (hr rfl) c hc
    · exact .inr rfl
  | wNotify w hp => exact h.setW fun _ => h w (.inl hp)
  | _ => exact h

/-- Needs the yield before the signal: a spawned-but-unpolled connection belongs to a worker that has
    not signalled yet; hence no connection is ever first polled after the signal. -/
def NoCancel (s : State) : Prop := ∀ c,
  ((s.c c).phase = .spawned →
      c ∈ (s.w (s.c c).worker).started ∧ (s.w (s.c c).worker).signalled = false) ∧
    (s.c c).cancelled = false ∧ (s.c c).phase ≠ .doomed

theorem nocancel_init : NoCancel init := by
  intro c; simp [init]

theorem NoCancel.setC {k : Nat} {C : Conn} (h : NoCancel s)
    (hC :
      (C.phase = .spawned → k ∈ (s.w C.worker).started ∧ (s.w C.worker).signalled = false) ∧
        C.cancelled = false ∧ C.phase ≠ .doomed) :
    NoCancel (s.setC k C) := by
  intro c
  rw [setC_c]; split
  · next e => exact e ▸ hC
  · exact h c

theorem NoCancel.setW {i : Nat} {W : Worker} (h : NoCancel s)
    (hW : ∀ c, (s.c c).phase = .spawned → (s.c c).worker = i →
      c ∈ W.started ∧ W.signalled = false) :
    NoCancel (s.setW i W) := by
  refine fun c => ⟨fun hp => ?_, (h c).2⟩
  rw [setW_w]; split
  · next e => exact hW c hp e
  · exact (h c).1 hp

theorem nocancel_step (hy : cfg.yieldPolicy = .always)
    (h : NoCancel s) (hc : Coupling s) (hf : WFlags s) (hs : Step cfg s e s') : NoCancel s' := by
  induction hs with
  | accept c | dropConn c | cPoll c | hBegin c | hEnd c | cEnd c =>
    exact h.setC ⟨nofun, (h c).2.1, nofun⟩
  | cPollLate c hp _ hsig => simp [((h c).1 hp).2] at hsig
  | dispatchOk w c =>
    have h' := h.setC (k := c) (C := { s.c c with phase := .queued, worker := w })
      ⟨nofun, (h c).2.1, nofun⟩
    refine h'.setW fun c' hp hw => ?_
    by_cases e : c' = c
    · -- `c` itself is now queued, not spawned
      subst e
      rw [setC_c_self] at hp
      cases hp
    · rw [setC_c_ne _ _ e] at hp hw
      exact hw ▸ (h c').1 hp
  | dispatchClosed w _ hp _ _ _ _ hcl =>
    -- while the acceptor listens no inbox is closed
    simp [hc.not_closed hp w] at hcl
  | accSend w | wGraceful w | wForced w | wClose w | wDrainEnd w | wWaitEnd w | wNotify w =>
    exact h.setW fun c hp hw => hw ▸ (h c).1 hp
  | wSignal w _ hy' =>
    refine h.setW fun c hp hw => ?_
    have := (allPhase_iff ..).1 (hy' (by simp [Cfg.yields, hy])) c (hw ▸ ((h c).1 hp).1)
    simp [hp] at this
  | wRecv w c _ hp | wDrain w c _ hp =>
    have hsig : (s.w w).signalled = false :=
      Bool.eq_false_iff.2 fun h' => by simpa [hp] using hf.signalled h'
    refine (h.setW fun c' hp' hw => ?_).setC ?_
    · exact ⟨List.mem_append_left _ (hw ▸ ((h c').1 hp').1), hsig⟩
    · exact ⟨fun _ => by simp [hsig], (h c).2.1, nofun⟩
  | _ => exact h

/-- Every worker acts on the mode the acceptor took from the caller. -/
def ModeAgree (s : State) : Prop := ∀ w,
  (∀ m, m ∈ (s.w w).cmds → s.acc.mode = some m) ∧
    ((s.w w).phase ≠ .running → (s.acc.mode = some .forced ↔ (s.w w).forced = true))

theorem modeagree_init : ModeAgree init := by
  intro w; simp [init]

theorem ModeAgree.setW {i : Nat} {W : Worker} (h : ModeAgree s)
    (hW : (∀ m, m ∈ W.cmds → s.acc.mode = some m) ∧
      (W.phase ≠ .running → (s.acc.mode = some .forced ↔ W.forced = true))) :
    ModeAgree (s.setW i W) := by
  intro w
  rw [setW_w]; split
  · exact hW
  · exact h w

theorem modeagree_step (h : ModeAgree s) (hc : Coupling s)
    (ha : AFlags cfg s) (hs : Step cfg s e s') : ModeAgree s' := by
  induction hs with
  | accShutdown m hp =>
    -- no worker has been told anything: all run, with no command pending
    intro j
    have := hc.listening hp j
    simp [this.phase, this.cmds]
  | accSend i m hp =>
    refine h.setW ⟨fun m' hm' => ?_, (h i).2⟩
    rcases List.mem_append.1 hm' with hm' | hm'
    · exact (h i).1 m' hm'
    · cases List.mem_singleton.1 hm'
      exact (ha.sending hp).1
  | dispatchOk w | wRecv w | wDrain w => exact h.setW (h w)
  | dispatchClosed => exact h.setW ⟨nofun, fun hp => (hp rfl).elim⟩
  | wGraceful w rest _ hcm | wForced w rest _ hcm =>
    -- the command taken is the mode the acceptor took
    have := (h w).1 _ (hcm ▸ List.mem_cons_self ..)
    refine h.setW ⟨fun m hm => (h w).1 m (hcm ▸ List.mem_cons_of_mem _ hm), fun _ => ?_⟩
    simp [this]
  | wClose w hp | wDrainEnd w hp | wSignal w hp | wWaitEnd w _ hp | wNotify w hp =>
    exact h.setW ⟨(h w).1, fun _ => (h w).2 (by simp [hp])⟩
  | _ => exact h

/-- The invariants that hold under every yield policy. -/
structure Inv (cfg : Cfg) (s : State) : Prop where
  coupling : Coupling s
  wflags : WFlags s
  aflags : AFlags cfg s
  links : Links s
  conserv : Conserv s
  drained : Drained s
  resol : Resol cfg s
  wdone : WDone s
  modeagree : ModeAgree s
  ranges : Ranges cfg s

theorem inv_init (cfg : Cfg) : Inv cfg init :=
  ⟨coupling_init, wflags_init, aflags_init cfg, links_init, conserv_init, drained_init, resol_init cfg, wdone_init,
    modeagree_init, ranges_init cfg⟩

theorem inv_step (h : Inv cfg s) (hs : step cfg s e = some s') : Inv cfg s' :=
  have hs := Step.of_step hs
  { coupling := coupling_step h.coupling hs
    wflags := wflags_step h.wflags hs
    aflags := aflags_step h.aflags hs
    links := links_step h.links hs
    conserv := conserv_step h.conserv hs
    drained := drained_step h.drained h.coupling hs
    resol := resol_step h.resol h.aflags hs
    wdone := wdone_step h.wdone h.links hs
    modeagree := modeagree_step h.modeagree h.coupling h.aflags hs
    ranges := ranges_step h.ranges hs }

theorem inv_run (h : Inv cfg s) (hr : run cfg s es = some s') : Inv cfg s' :=
  run_invariant inv_step h hr

def Reachable (cfg : Cfg) (s : State) : Prop := ∃ es, run cfg init es = some s

theorem inv_reachable (h : Reachable cfg s) : Inv cfg s := by
  obtain ⟨es, hr⟩ := h
  exact inv_run (inv_init cfg) hr

theorem nocancel_reachable (hy : cfg.yieldPolicy = .always) (h : Reachable cfg s) : NoCancel s := by
  obtain ⟨es, hr⟩ := h
  exact (run_invariant (P := fun s => Inv cfg s ∧ NoCancel s)
    (fun h hs => ⟨inv_step h.1 hs, nocancel_step hy h.2 h.1.coupling h.1.wflags (.of_step hs)⟩)
    ⟨inv_init cfg, nocancel_init⟩ hr).2

theorem setW_dispatched {i : Nat} {W : Worker} (hW : W.dispatched = (s.w i).dispatched) (j : Nat) :
    ((s.setW i W).w j).dispatched = (s.w j).dispatched := by
  rw [setW_w]; split
  · next e => exact e ▸ hW
  · rfl

theorem frozen_step (hp : s.acc.phase ≠ .listening) (hs : Step cfg s e s') :
    s'.acc.phase ≠ .listening ∧ ∀ w, (s'.w w).dispatched = (s.w w).dispatched := by
  induction hs with
  | accept _ hp' | dispatchOk _ _ hp' | dispatchFull _ _ hp' | dispatchClosed _ _ hp'
  | dropConn _ hp' | accShutdown _ hp' => exact absurd hp' hp
  | accSend => exact ⟨nofun, setW_dispatched rfl⟩
  | wRecv | wDrain | wGraceful | wForced | wClose | wDrainEnd | wSignal | wWaitEnd | wNotify =>
    exact ⟨hp, setW_dispatched rfl⟩
  | accWaitStart | accWaitEnd | accNotify | accExit => exact ⟨nofun, fun _ => rfl⟩
  | _ => exact ⟨hp, fun _ => rfl⟩

theorem started_frozen_step (hf : WFlags s) (hc : Coupling s) (w : Nat)
    (hsig : (s.w w).signalled = true) (hs : Step cfg s e s') :
    (s'.w w).signalled = true ∧ (s'.w w).started = (s.w w).started := by
  have hph := hf.signalled hsig
  -- a step that writes worker `i` leaves `w` alone, or `i` is `w`
  have frame {i : Nat} {W : Worker}
      (hW : i = w → W.signalled = true ∧ W.started = (s.w w).started) :
      ((s.setW i W).w w).signalled = true ∧ ((s.setW i W).w w).started = (s.w w).started := by
    rw [setW_w]; split
    · next e => exact hW e.symm
    · exact ⟨hsig, rfl⟩
  induction hs with
  | dispatchOk _ _ hp | dispatchClosed _ _ hp =>
    -- the acceptor still listens, so no worker has signalled
    have := (hc.listening hp w).signalled
    simp [this] at hsig
  | accSend i | wWaitEnd i | wNotify i =>
    refine frame fun e => ?_
    subst e
    exact ⟨hsig, rfl⟩
  | wRecv i _ _ hp | wDrain i _ _ hp | wGraceful i _ hp | wForced i _ hp | wClose i hp
  | wDrainEnd i hp | wSignal i hp =>
    -- the step needs a phase that a signalled worker is past
    refine frame fun e => ?_
    subst e
    simp [hp] at hph
  | _ => exact ⟨hsig, rfl⟩

theorem frozen_run (hp : s.acc.phase ≠ .listening) (hr : run cfg s es = some s') :
    s'.acc.phase ≠ .listening ∧ ∀ w, (s'.w w).dispatched = (s.w w).dispatched := by
  refine run_invariant
    (P := fun t => t.acc.phase ≠ .listening ∧ ∀ w, (t.w w).dispatched = (s.w w).dispatched)
    (fun h hs => ?_) ⟨hp, fun _ => rfl⟩ hr
  exact (frozen_step h.1 (.of_step hs)).imp_right fun hd w => (hd w).trans (h.2 w)

/-- The acceptor's `for worker_handle in worker_handles` loop runs through: one `send` per remaining worker, no
    connection touched. -/
theorem sends_run (cfg : Cfg) (m : Mode) (k : Nat) :
    ∀ (s : State) (i : Nat), s.acc.phase = .sending m i → i + k = cfg.n →
      ∃ s', run cfg s ((List.range' i k).map .accSend) = some s' ∧
        s'.acc.phase = .sending m cfg.n ∧ s'.c = s.c := by
  induction k with
  | zero => exact fun s i hp hi => ⟨s, rfl, by rw [hp, ← hi]; rfl, rfl⟩
  | succ k ih =>
    intro s i hp hi
    obtain ⟨s₁, hs, hp1, hc1⟩ :
        ∃ s₁, Step cfg s (.accSend i) s₁ ∧ s₁.acc.phase = .sending m (i + 1) ∧
          s₁.c = s.c :=
      ⟨_, .accSend i m hp (by omega), rfl, rfl⟩
    obtain ⟨s', g1, g2, g3⟩ := ih s₁ (i + 1) hp1 (by omega)
    refine ⟨s', ?_, g2, g3.trans hc1⟩
    rw [List.range'_succ]
    exact hs.run g1

/-- The schedule is the acceptor's own: its remaining sends, then (Graceful) the wait, ended by its timer, the
    notification and the exit. -/
theorem acceptor_exits (ha : AFlags cfg s) (hp : s.acc.phase ≠ .listening) :
    ∃ es s', run cfg s es = some s' ∧ es.length ≤ cfg.n + 4 ∧ s'.acc.phase = .exited := by
  cases hph : s.acc.phase with
  | listening => exact absurd hph hp
  | sending m i =>
    have hi := (ha.sending hph).2
    obtain ⟨s₁, h1, hp1, _⟩ := sends_run cfg m (cfg.n - i) s i hph (by omega)
    cases m with
    | graceful =>
      have hr : run cfg s₁ [.accWaitStart, .accWaitEnd .timeout, .accNotify, .accExit] = some _ :=
        (Step.accWaitStart hp1).run <| (Step.accWaitEnd .timeout rfl nofun).run <|
          (Step.accNotify (.inl rfl)).run <| (Step.accExit rfl).run rfl
      exact ⟨_, _, run_append_of h1 hr, by simp, rfl⟩
    | forced =>
      have hr : run cfg s₁ [.accNotify, .accExit] = some _ :=
        (Step.accNotify (.inr hp1)).run <| (Step.accExit rfl).run rfl
      exact ⟨_, _, run_append_of h1 hr, by simp; omega, rfl⟩
  | waiting =>
    have hr : run cfg s [.accWaitEnd .timeout, .accNotify, .accExit] = some _ :=
      (Step.accWaitEnd .timeout hph nofun).run <| (Step.accNotify (.inl rfl)).run <|
        (Step.accExit rfl).run rfl
    exact ⟨_, _, hr, by simp, rfl⟩
  | finishing =>
    have hr : run cfg s [.accNotify, .accExit] = some _ :=
      (Step.accNotify (.inl hph)).run <| (Step.accExit rfl).run rfl
    exact ⟨_, _, hr, by simp, rfl⟩
  | notified => exact ⟨[.accExit], _, (Step.accExit hph).run rfl, by simp, rfl⟩
  | exited => exact ⟨[], s, rfl, by simp, hph⟩

/-- What the acceptor's dispatch loop keeps true until it takes the pending `shutdown(m)`. -/
structure TakeReady (cfg : Cfg) (m : Mode) (s : State) : Prop where
  listening : s.acc.phase = .listening
  pending : m ∈ s.acc.calls
  next_lt : s.acc.next < cfg.n
  tries_le : s.acc.tries ≤ cfg.n
  inboxes_open : ∀ w, (s.w w).closed = false

theorem take_now {m : Mode} (h : TakeReady cfg m s) (hc : s.acc.cur = none) :
    ∃ s', run cfg s [.accShutdown m] = some s' ∧ s'.acc.phase = .sending m 0 :=
  ⟨_, (Step.accShutdown m h.listening hc h.pending).run rfl, rfl⟩

theorem take_after_dispatch (cfg : Cfg) (m : Mode) (k : Nat) :
    ∀ (s : State) (c : Nat), TakeReady cfg m s → s.acc.cur = some c →
      cfg.n - s.acc.tries = k →
      ∃ es s', run cfg s es = some s' ∧ s'.acc.phase = .sending m 0 ∧
        es.length ≤ k + 2 := by
  induction k with
  | zero =>
    intro s c ⟨hp, hm, hnext, htries, hopen⟩ hc hk
    -- every worker was full: the connection is dropped
    obtain ⟨s₁, hs, hr, hc1⟩ :
        ∃ s₁, Step cfg s (.dropConn c) s₁ ∧ TakeReady cfg m s₁ ∧ s₁.acc.cur = none :=
      ⟨_, .dropConn c hp hc (by omega), ⟨hp, hm, hnext, htries, hopen⟩, rfl⟩
    obtain ⟨s', g1, g2⟩ := take_now hr hc1
    exact ⟨_, s', hs.run g1, g2, by simp⟩
  | succ k ih =>
    intro s c ⟨hp, hm, hnext, htries, hopen⟩ hc hk
    by_cases hq : (s.w s.acc.next).queue.length < cfg.cap
    · -- the worker whose turn it is has room: it gets the connection, and its inbox stays open
      obtain ⟨s₁, hs, hr, hc1⟩ :
          ∃ s₁, Step cfg s (.dispatch c s.acc.next .ok) s₁ ∧ TakeReady cfg m s₁ ∧
            s₁.acc.cur = none := by
        refine ⟨_, .dispatchOk _ c hp hc (by omega) rfl hnext (hopen _) hq,
          ⟨hp, hm, hnext, htries, fun w => ?_⟩, rfl⟩
        rw [setW_w]; split
        · exact hopen _
        · exact hopen w
      obtain ⟨s', g1, g2⟩ := take_now hr hc1
      exact ⟨_, s', hs.run g1, g2, by simp⟩
    · -- it is full: the next worker's turn, one try fewer left
      obtain ⟨s₁, hs, hr, hc1, hk1⟩ :
          ∃ s₁, Step cfg s (.dispatch c s.acc.next .full) s₁ ∧ TakeReady cfg m s₁ ∧
            s₁.acc.cur = some c ∧ cfg.n - s₁.acc.tries = k := by
        refine ⟨_, .dispatchFull _ c hp hc (by omega) rfl hnext (hopen _) (Nat.le_of_not_lt hq),
          ⟨hp, hm, Nat.mod_lt _ (by omega), ?_, hopen⟩, hc, ?_⟩
        · show s.acc.tries + 1 ≤ cfg.n
          omega
        · show cfg.n - (s.acc.tries + 1) = k
          omega
      obtain ⟨es, s', g1, g2, g3⟩ := ih s₁ c hr hc1 hk1
      exact ⟨_, s', hs.run g1, g2, by simp; omega⟩

theorem TakeReady.taken {m : Mode} (h : TakeReady cfg m s) :
    ∃ es s', run cfg s es = some s' ∧ s'.acc.phase = .sending m 0 ∧
      es.length ≤ cfg.n + 2 := by
  cases hc : s.acc.cur with
  | none =>
    obtain ⟨s', g1, g2⟩ := take_now h hc
    exact ⟨_, s', g1, g2, by simp⟩
  | some c =>
    obtain ⟨es, s', g1, g2, g3⟩ := take_after_dispatch cfg m (cfg.n - s.acc.tries) s c h hc rfl
    exact ⟨es, s', g1, g2, by omega⟩

theorem drain_all (cfg : Cfg) (w : Nat) :
    ∀ (q : List Nat) (s : State), (s.w w).phase = .draining → (s.w w).queue = q →
      ∃ es s', run cfg s es = some s' ∧ (s'.w w).phase = .drained := by
  intro q
  induction q with
  | nil =>
    intro s hp hq
    exact ⟨[.wDrainEnd w], _, (Step.wDrainEnd w hp hq).run rfl, by rw [setW_w_self]⟩
  | cons c rest ih =>
    intro s hp hq
    obtain ⟨s₁, hs, hp1, hq1⟩ :
        ∃ s₁, Step cfg s (.wDrain w c) s₁ ∧ (s₁.w w).phase = .draining ∧
          (s₁.w w).queue = rest :=
      ⟨_, .wDrain w c rest hp hq, by rw [setW_w_self]; exact hp, by rw [setW_w_self]⟩
    obtain ⟨es, s', g1, g2⟩ := ih s₁ hp1 hq1
    exact ⟨_, s', hs.run g1, g2⟩

theorem poll_all (cfg : Cfg) (w : Nat) :
    ∀ (l : List Nat) (s : State), (s.w w).phase = .drained → (s.w w).signalled = false →
      (∀ c, c ∈ l → (s.c c).worker = w) →
      ∃ es s', run cfg s es = some s' ∧ s'.w = s.w ∧
        ∀ c, (s'.c c).phase = .spawned → (s.c c).phase = .spawned ∧ c ∉ l := by
  intro l
  induction l with
  | nil => exact fun s _ _ _ => ⟨[], s, rfl, rfl, fun _ h => ⟨h, nofun⟩⟩
  | cons c l ih =>
    intro s hp hs hw
    have hl := fun c' hc' => hw c' (List.mem_cons_of_mem _ hc')
    by_cases hc : (s.c c).phase = .spawned
    · -- poll `c`: it becomes idle, every other connection stays as it is
      have hwc := hw c List.mem_cons_self
      have h1 := Step.cPoll (cfg := cfg) c hc (by simp [workerAlive, hwc, hp]) (by simp [hwc, hs])
      have hw' : ∀ c', c' ∈ l →
          ((s.setC c { s.c c with phase := .idle }).c c').worker = w := by
        intro c' hc'
        rw [setC_c]; split
        · exact hwc
        · exact hl c' hc'
      obtain ⟨es, s', g1, g2, g3⟩ := ih (s.setC c { s.c c with phase := .idle }) hp hs hw'
      refine ⟨.cPoll c :: es, s', h1.run g1, g2, fun c' h' => ?_⟩
      obtain ⟨h3, h4⟩ := g3 c' h'
      rw [setC_c] at h3
      split at h3
      · cases h3
      · exact ⟨h3, by simp [*]⟩
    · obtain ⟨es, s', g1, g2, g3⟩ := ih s hp hs hl
      refine ⟨es, s', g1, g2, fun c' h' => ⟨(g3 c' h').1, ?_⟩⟩
      rintro (_ | ⟨_, hm⟩)
      · exact hc (g3 c h').1
      · exact (g3 c' h').2 hm

def CanExit (cfg : Cfg) (w : Nat) (t : State) : Prop :=
  ∃ es s', run cfg t es = some s' ∧ (s'.w w).phase = .exited ∧ (s'.w w).notified = true

theorem CanExit.after {w : Nat} (hr : run cfg s es = some s') : CanExit cfg w s' → CanExit cfg w s
  | ⟨es', s'', g1, g2⟩ => ⟨es ++ es', s'', run_append_of hr g1, g2⟩

theorem CanExit.step {w : Nat} (hs : Step cfg s e s') (h : CanExit cfg w s') : CanExit cfg w s :=
  h.after (hs.run (es := []) rfl)

/-! The stages of `Worker::run` after a shutdown command, last first: each reaches the next by the worker's own
    steps (the timer for the wait, first polls of its spawned tasks for the yield). -/

theorem canExit_finishing {w : Nat} (hp : (s.w w).phase = .finishing) : CanExit cfg w s :=
  ⟨[.wNotify w], _, (Step.wNotify w hp).run rfl, by rw [setW_w_self]; exact ⟨rfl, rfl⟩⟩

theorem canExit_waiting {w : Nat} (hp : (s.w w).phase = .waiting) : CanExit cfg w s :=
  .step (.wWaitEnd w .timeout hp nofun) (canExit_finishing (by rw [setW_w_self]))

theorem canExit_drained {w : Nat} (hi : Inv cfg s) (hp : (s.w w).phase = .drained) :
    CanExit cfg w s := by
  have hsig : (s.w w).signalled = false :=
    Bool.eq_false_iff.2 fun h => by simpa [hp] using hi.wflags.signalled h
  obtain ⟨es, s₁, g1, g2, g3⟩ :=
    poll_all cfg w (s.w w).started s hp hsig fun c hc => (hi.links.started w c hc).1
  have : allPhase s₁ (fun p => p != .spawned) (s.w w).started = true :=
    (allPhase_iff ..).2 fun c hc => by simpa using fun h => (g3 c h).2 hc
  have hs := Step.wSignal (cfg := cfg) (s := s₁) w (g2 ▸ hp) (g2 ▸ fun _ => this)
  exact .after g1 (.step hs (canExit_waiting (by rw [setW_w_self])))

theorem canExit_draining {w : Nat} (hi : Inv cfg s) (hp : (s.w w).phase = .draining) :
    CanExit cfg w s := by
  obtain ⟨es, s₁, g1, g2⟩ := drain_all cfg w (s.w w).queue s hp rfl
  exact (canExit_drained (inv_run hi g1) g2).after g1

theorem canExit_closing {w : Nat} (hi : Inv cfg s) (hp : (s.w w).phase = .closing) :
    CanExit cfg w s := by
  have hs := Step.wClose (cfg := cfg) w hp
  exact .step hs (canExit_draining (inv_step hi hs.to_step) (by rw [setW_w_self]))

theorem worker_exits {w : Nat} (hi : Inv cfg s) (hw : w < cfg.n)
    (hp : (s.w w).phase ≠ .running ∨ (s.w w).cmds ≠ []) : CanExit cfg w s := by
  cases hph : (s.w w).phase with
  | running =>
    cases hcm : (s.w w).cmds with
    | nil => exact absurd hcm (hp.resolve_left (· hph))
    | cons m rest =>
      cases m with
      | graceful =>
        have hs := Step.wGraceful (cfg := cfg) w rest hph hcm hw
        exact .step hs (canExit_closing (inv_step hi hs.to_step) (by rw [setW_w_self]))
      | forced => exact .step (.wForced w rest hph hcm hw) (canExit_finishing (by rw [setW_w_self]))
  | closing => exact canExit_closing hi hph
  | draining => exact canExit_draining hi hph
  | drained => exact canExit_drained hi hph
  | waiting => exact canExit_waiting hph
  | finishing => exact canExit_finishing hph
  | exited => exact ⟨[], s, rfl, hph, (hi.wflags.notified_iff w).2 hph⟩

end Pxv.Server
