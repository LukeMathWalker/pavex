import Pxv.Model.Bp
/-! For C19 (blueprint builder): pushing a component and then modifying it in place by a chain of
calls leaves, for each property, the value of the last call that sets it (`lastSomeD`). -/
namespace Pxv.Bp

/-- `lastSome`, falling back to what was there before. -/
def lastSomeD {α β} (f : α → Option β) (l : List α) (d : Option β) : Option β :=
  match lastSome f l with
  | some b => some b
  | none => d

theorem lastSomeD_nil {α β} (f : α → Option β) (d : Option β) : lastSomeD f [] d = d := rfl

theorem lastSomeD_cons {α β} (f : α → Option β) (a : α) (l : List α) (d : Option β) :
    lastSomeD f (a :: l) d = lastSomeD f l (match f a with | some b => some b | none => d) := by
  unfold lastSomeD
  simp only [lastSome]
  cases lastSome f l <;> cases f a <;> rfl

theorem lastSomeD_none {α β} (f : α → Option β) (l : List α) :
    lastSomeD f l none = lastSome f l := by
  unfold lastSomeD
  cases lastSome f l <;> rfl

theorem modifyAt_append_length (comps : List Component) (x : Component)
    (f : Component → Component) :
    modifyAt comps.length f (comps ++ [x]) = comps ++ [f x] := by
  induction comps with
  | nil => rfl
  | cons c cs ih => simp [modifyAt, ih]

theorem foldl_modifyAt (comps : List Component) (x : Component)
    (mods : List (Component → Component)) :
    mods.foldl (fun cs f => modifyAt comps.length f cs) (comps ++ [x])
      = comps ++ [mods.foldl (fun c f => f c) x] := by
  induction mods generalizing x with
  | nil => rfl
  | cons m ms ih => simp only [List.foldl_cons, modifyAt_append_length, ih]

theorem pushThen_eq (comps : List Component) (init : Component)
    (mods : List (Component → Component)) :
    pushThen comps init mods = comps ++ [mods.foldl (fun c f => f c) init] := by
  unfold pushThen
  exact foldl_modifyAt comps init mods

theorem ctor_fold (c : Coords) (loc : Loc) (mods : List CtorMod) :
    ∀ (lc : Option Lifecycle) (cl : Option Cloning) (eh : Option EH) (lints : Lints),
    (mods.map applyCtorMod).foldl (fun x f => f x) (.constructor c lc cl eh lints loc)
      = .constructor c (lastSomeD ctorLifecycle mods lc) (lastSomeD ctorCloning mods cl)
          (lastSomeD ctorEh mods eh)
          { unused := lastSomeD (ctorLint .unused) mods lints.unused,
            errorFallback := lastSomeD (ctorLint .errorFallback) mods lints.errorFallback }
          loc := by
  induction mods with
  | nil => intro lc cl eh lints; rfl
  | cons m ms ih =>
    intro lc cl eh lints
    simp only [List.map_cons, List.foldl_cons, lastSomeD_cons]
    cases m <;> simp only [applyCtorMod, ih, ctorLifecycle, ctorCloning, ctorEh, ctorLint]
    case lint s l => cases l <;> simp [Lints.insert]

theorem eh_fold (k : HKind) (c : Coords) (loc : Loc) (ehs : List (Coords × Loc)) :
    ∀ (eh : Option EH),
    (ehs.map applyEh).foldl (fun x f => f x) (.handler k c loc eh)
      = .handler k c loc (lastSomeD (fun h => some ⟨h.1, h.2⟩) ehs eh) := by
  induction ehs with
  | nil => intro eh; rfl
  | cons h hs ih =>
    intro eh
    simp only [List.map_cons, List.foldl_cons, lastSomeD_cons, applyEh, ih]

theorem prebuilt_fold (c : Coords) (loc : Loc) (mods : List CfgMod) :
    ∀ (cl : Option Cloning),
    (mods.map applyCfgMod).foldl (fun x f => f x) (.prebuilt c cl loc)
      = .prebuilt c (lastSomeD cfgCloning mods cl) loc := by
  induction mods with
  | nil => intro cl; rfl
  | cons m ms ih =>
    intro cl
    simp only [List.map_cons, List.foldl_cons, lastSomeD_cons]
    cases m <;> simp only [applyCfgMod, ih, cfgCloning]

theorem config_fold (c : Coords) (loc : Loc) (mods : List CfgMod) :
    ∀ (cl : Option Cloning) (dim iiu : Option Bool),
    (mods.map applyCfgMod).foldl (fun x f => f x) (.config c cl dim iiu loc)
      = .config c (lastSomeD cfgCloning mods cl) (lastSomeD cfgDefault mods dim)
          (lastSomeD cfgInclude mods iiu) loc := by
  induction mods with
  | nil => intro cl dim iiu; rfl
  | cons m ms ih =>
    intro cl dim iiu
    simp only [List.map_cons, List.foldl_cons, lastSomeD_cons]
    cases m <;> simp only [applyCfgMod, ih, cfgCloning, cfgDefault, cfgInclude]

theorem runRMods_eq (rmods : List RMod) :
    ∀ st, runRMods rmods st
      = (lastSomeD rmodPrefix rmods st.1, lastSomeD rmodDomain rmods st.2) := by
  induction rmods with
  | nil => intro st; rfl
  | cons m ms ih =>
    intro st
    cases m <;> simp only [runRMods, ih, lastSomeD_cons, rmodPrefix, rmodDomain]

end Pxv.Bp
