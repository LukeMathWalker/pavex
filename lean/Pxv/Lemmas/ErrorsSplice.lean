import Pxv.Lemmas.Errors
/-! The graph construction of C06, in three parts.
The observer splice only appends observer nodes, and edges that touch them (`Ext`), so attaching observers to
one error handler does not disturb what the splice reads off the others: it fires for every eligible handler,
and makes no node fallible. The branching injection only rewires the fallible node it works on (`Rel`): every
fallible node gets its `MatchBranching` node. Last, the chain that `attachObservers` lays out in front of a
handler's child, position by position. -/
namespace Pxv.Err
open Graph

/-- every endpoint of an edge is a node -/
def Closed (g : Graph) : Prop := ∀ e ∈ g.edges, e.src < g.size ∧ e.dst < g.size

instance (g : Graph) : Decidable (Closed g) := by unfold Closed; exact inferInstance

theorem succs_lt {g : Graph} (h : Closed g) {x d : Nat} (hd : d ∈ g.succs x) : d < g.size := by
  obtain ⟨e, he, _, rfl⟩ := mem_succs.mp hd
  exact (h e he).2

theorem preds_lt {g : Graph} (h : Closed g) {x p : Nat} (hp : p ∈ g.preds x) : p < g.size := by
  simp only [Graph.preds, List.mem_map, List.mem_filter] at hp
  obtain ⟨e, ⟨he, _⟩, rfl⟩ := hp
  exact (h e he).1

theorem kind_old_of_append {g g' : Graph} {ks : List Kind} (h : g'.nodes = g.nodes ++ ks) {n : Nat}
    (hn : n < g.size) : g'.kind n = g.kind n := by
  simp only [Graph.kind, h, List.getD_eq_getElem?_getD, List.getElem?_append_left hn]

theorem kind_new_of_append {g g' : Graph} {ks : List Kind} (h : g'.nodes = g.nodes ++ ks) {n : Nat}
    (hn : g.size ≤ n) : g'.kind n ∈ ks ∨ g'.kind n = .other := by
  simp only [Graph.kind, h, List.getD_eq_getElem?_getD, List.getElem?_append_right hn]
  cases hk : ks[n - g.nodes.length]? with
  | none => exact Or.inr rfl
  | some k => exact Or.inl (List.mem_of_getElem? hk)

/-- `g'` is `g` plus observer nodes, plus edges each of which enters a new node, or leaves a new node for one of
    the `C` nodes. -/
structure Ext (C : Nat → Prop) (g g' : Graph) : Prop where
  nodes : ∃ ks, g'.nodes = g.nodes ++ ks ∧ ∀ k ∈ ks, isObserver k = true
  edges : ∃ es, g'.edges = g.edges ++ es ∧ ∀ e ∈ es, g.size ≤ e.dst ∨ (g.size ≤ e.src ∧ C e.dst)

theorem Ext.refl (C : Nat → Prop) (g : Graph) : Ext C g g :=
  { nodes := ⟨[], by simp, by simp⟩, edges := ⟨[], by simp, by simp⟩ }

theorem Ext.mono {C D : Nat → Prop} {g g' : Graph} (h : Ext C g g') (hcd : ∀ d, C d → D d) : Ext D g g' := by
  obtain ⟨es, he, hd⟩ := h.edges
  exact { nodes := h.nodes, edges := ⟨es, he, fun e hm => (hd e hm).imp_right (And.imp_right (hcd _))⟩ }

theorem Ext.size_le {C : Nat → Prop} {g g' : Graph} (h : Ext C g g') : g.size ≤ g'.size := by
  obtain ⟨ks, hk, _⟩ := h.nodes
  simp [Graph.size, hk]

theorem Ext.kind_old {C : Nat → Prop} {g g' : Graph} (h : Ext C g g') {n : Nat} (hn : n < g.size) :
    g'.kind n = g.kind n :=
  let ⟨_, hk, _⟩ := h.nodes
  kind_old_of_append hk hn

theorem Ext.test_new {C : Nat → Prop} {g g' : Graph} (h : Ext C g g') {q : Kind → Bool}
    (hq : ∀ o, q (.observer o) = false) (hq' : q .other = false) {n : Nat} (hn : g.size ≤ n) :
    q (g'.kind n) = false := by
  obtain ⟨ks, hk, hobs⟩ := h.nodes
  rcases kind_new_of_append hk hn with hm | hm
  · generalize g'.kind n = k at hm ⊢
    have := hobs k hm
    cases k <;> first | exact hq _ | cases this
  · rw [hm]; exact hq'

theorem Ext.trans {C : Nat → Prop} {a b c : Graph} (h1 : Ext C a b) (h2 : Ext C b c) : Ext C a c := by
  obtain ⟨k1, hk1, ho1⟩ := h1.nodes
  obtain ⟨k2, hk2, ho2⟩ := h2.nodes
  obtain ⟨e1, he1, hd1⟩ := h1.edges
  obtain ⟨e2, he2, hd2⟩ := h2.edges
  have hs : a.size ≤ b.size := h1.size_le
  constructor
  case nodes =>
    refine ⟨k1 ++ k2, by rw [hk2, hk1, List.append_assoc], fun k hk => ?_⟩
    exact (List.mem_append.mp hk).elim (ho1 k) (ho2 k)
  case edges =>
    refine ⟨e1 ++ e2, by rw [he2, he1, List.append_assoc], fun e he => ?_⟩
    rcases List.mem_append.mp he with he | he
    · exact hd1 e he
    · -- what is new to `b` is new to `a`
      exact (hd2 e he).imp (Nat.le_trans hs) (And.imp_left (Nat.le_trans hs))

theorem Ext.addObserver {C : Nat → Prop} (g0 g : Graph) (o : Nat) (h : Ext C g0 g) :
    Ext C g0 (addNode g (.observer o)).1 :=
  h.trans
    { nodes := ⟨[.observer o], rfl, fun k hk => List.mem_singleton.mp hk ▸ rfl⟩
      edges := ⟨[], by simp [addNode], by simp⟩ }

theorem Ext.addEdge {C : Nat → Prop} (g0 g : Graph) (s d : Nat) (k : EK) (h : Ext C g0 g)
    (hsd : g0.size ≤ d ∨ (g0.size ≤ s ∧ C d)) : Ext C g0 (addEdge g s d k) := by
  obtain ⟨es, he, hd⟩ := h.edges
  refine { nodes := h.nodes, edges := ⟨es ++ [⟨s, d, k⟩], by simp [Pxv.Err.addEdge, he], fun e hmem => ?_⟩ }
  rcases List.mem_append.mp hmem with hmem | hmem
  · exact hd e hmem
  · exact List.mem_singleton.mp hmem ▸ hsd

/-- The last edge leaves `prev` for `child`; if no observer comes in between, `prev` must be a new node. -/
theorem attachObservers_ext {C : Nat → Prop} (g0 : Graph) (enew child : Nat) (hC : C child) :
    ∀ (obs : List Nat) (g : Graph) (prev : Option Nat),
    Ext C g0 g → (obs = [] → ∀ p, prev = some p → g0.size ≤ p) → Ext C g0 (attachObservers g enew child obs prev)
  | [], g, prev, h, hp => by
    cases prev with
    | none => exact h
    | some p =>
      simp only [attachObservers]
      exact Ext.addEdge g0 g p child .before h (Or.inr ⟨hp rfl p rfl, hC⟩)
  | o :: rest, g, prev, h, hp => by
    simp only [attachObservers]
    -- the observer's node is `g.size`, a new node: edges into it are allowed, and it is the next `prev`
    have hn : g0.size ≤ g.size := h.size_le
    have h1 := Ext.addObserver g0 g o h
    apply attachObservers_ext g0 enew child hC rest
    · apply Ext.addEdge _ _ enew g.size .shared _ (Or.inl hn)
      cases prev with
      | none => exact h1
      | some p => exact Ext.addEdge g0 _ p g.size .before h1 (Or.inl hn)
    · intro _ p hpe
      cases hpe
      exact hn

/-! What the splice reads off the neighbours of a node of the original graph is not disturbed by an extension. -/

theorem Ext.succs {C : Nat → Prop} {g g' : Graph} (h : Ext C g g') (n : Nat) (hn : n < g.size) :
    ∃ extra, g'.succs n = g.succs n ++ extra ∧ ∀ d ∈ extra, g.size ≤ d := by
  obtain ⟨es, he, hd⟩ := h.edges
  refine ⟨(es.filter (·.src == n)).map (·.dst), ?_, ?_⟩
  · simp [Graph.succs, he, List.filter_append]
  intro d hmem
  obtain ⟨e, hef, rfl⟩ := List.mem_map.mp hmem
  obtain ⟨hee, hsrc⟩ := List.mem_filter.mp hef
  have : e.src = n := by simpa using hsrc
  exact (hd e hee).elim id fun h => by omega

theorem Ext.preds {C : Nat → Prop} {g g' : Graph} (h : Ext C g g') (n : Nat) (hn : n < g.size) :
    ∃ extra, g'.preds n = g.preds n ++ extra ∧ ∀ s ∈ extra, g.size ≤ s := by
  obtain ⟨es, he, hd⟩ := h.edges
  refine ⟨(es.filter (·.dst == n)).map (·.src), ?_, ?_⟩
  · simp [Graph.preds, he, List.filter_append]
  intro s hmem
  obtain ⟨e, hef, rfl⟩ := List.mem_map.mp hmem
  obtain ⟨hee, hdst⟩ := List.mem_filter.mp hef
  have : e.dst = n := by simpa using hdst
  exact (hd e hee).elim (fun h => by omega) And.left

/-- What a test on kinds selects among old nodes followed by new ones is what it selected in `g`, if observers
    and `.other` fail it. Everything the splice and the injection read off the neighbours of a node of `g` (its
    matchers, whether it is fallible, its `pavex::Error::new`) is of this form. -/
theorem Ext.filter_old {C : Nat → Prop} {g g' : Graph} (h : Ext C g g') {q : Kind → Bool}
    (hq : ∀ o, q (.observer o) = false) (hq' : q .other = false) {l extra : List Nat}
    (hl : ∀ d ∈ l, d < g.size) (he : ∀ d ∈ extra, g.size ≤ d) :
    (l ++ extra).filter (fun m => q (g'.kind m)) = l.filter (fun m => q (g.kind m)) := by
  have hnew : extra.filter (fun m => q (g'.kind m)) = [] :=
    List.filter_eq_nil_iff.mpr fun d hd => by simp [h.test_new hq hq' (he d hd)]
  rw [List.filter_append, hnew, List.append_nil]
  exact List.filter_congr fun d hd => by rw [h.kind_old (hl d hd)]

theorem Ext.errorNewOf {C : Nat → Prop} {g g' : Graph} (h : Ext C g g') (hc : Closed g) (x : Nat) (hx : x < g.size) (e : Nat)
    (he : Pxv.Err.errorNewOf g x = some e) : Pxv.Err.errorNewOf g' x = some e := by
  obtain ⟨pe, hpe, hpn⟩ := h.preds x hx
  have hfind : ∀ k : Kind, (∀ o, (Kind.observer o == k) = false) →
      (Kind.other == k) = false →
      (g'.preds x).find? (fun p => g'.kind p == k) =
        (g.preds x).find? (fun p => g.kind p == k) := by
    intro k h1 h2
    rw [← List.head?_filter, ← List.head?_filter, hpe,
      h.filter_old (q := (· == k)) h1 h2 (fun p hp => preds_lt hc hp) hpn]
  unfold Pxv.Err.errorNewOf at he ⊢
  rw [hfind .errMatch (fun _ => rfl) rfl]
  cases hm : (g.preds x).find? (fun p => g.kind p == .errMatch) with
  | none =>
    rw [hm] at he
    simp only at he ⊢
    rw [hfind .errorNew (fun _ => rfl) rfl]
    exact he
  | some m =>
    rw [hm] at he
    simp only at he ⊢
    obtain ⟨se, hse, _⟩ := h.succs m (preds_lt hc (List.mem_of_find?_eq_some hm))
    rw [hse, List.find?_append, he]
    rfl

theorem Ext.child {C : Nat → Prop} {g g' : Graph} (h : Ext C g g') (x : Nat) (hx : x < g.size) (c : Nat)
    (hc : (g.succs x).head? = some c) : (g'.succs x).head? = some c := by
  obtain ⟨se, hse, _⟩ := h.succs x hx
  rw [hse, List.head?_append, hc]
  rfl

theorem Ext.matcherSuccs_eq {C : Nat → Prop} {g g' : Graph} (h : Ext C g g') (hc : Closed g) (x : Nat)
    (hx : x < g.size) : matcherSuccs g' x = matcherSuccs g x := by
  obtain ⟨extra, hs, hnew⟩ := h.succs x hx
  unfold matcherSuccs
  rw [hs]
  exact h.filter_old (q := fun k => k == .okMatch || k == .errMatch) (fun _ => rfl) rfl
    (fun d => succs_lt hc) hnew

/-- the splice makes no node fallible: observers are not, and the nodes it adds edges to (the handlers'
    children) are not `Err` matchers. -/
theorem Ext.fallibleNodes_eq {C : Nat → Prop} {g g' : Graph} (h : Ext C g g') (hc : Closed g)
    (hC : ∀ d, C d → d < g.size ∧ g.kind d ≠ .errMatch) : fallibleNodes g' = fallibleNodes g := by
  obtain ⟨ks, hk, _⟩ := h.nodes
  obtain ⟨es, he, hd⟩ := h.edges
  have hany (l : List Nat) (p : Nat → Bool) : l.any p = (l.filter p).any fun _ => true := by
    simp [List.any_filter]
  have hold : ∀ x ∈ List.range g.size,
      ((g'.succs x).any (fun m => g'.kind m == .errMatch) && g'.kind x != .branch) =
        ((g.succs x).any (fun m => g.kind m == .errMatch) && g.kind x != .branch) := fun x hx => by
    have hx := List.mem_range.mp hx
    obtain ⟨extra, hs, hnew⟩ := h.succs x hx
    rw [hany, hany (g.succs x), hs, h.kind_old hx,
      h.filter_old (q := (· == .errMatch)) (fun _ => rfl) rfl (fun d => succs_lt hc) hnew]
  -- a new node has no successor that is an `Err` matcher
  have hnew : ∀ i, (g'.succs (g.size + i)).any (fun m => g'.kind m == .errMatch) = false := by
    intro i
    refine List.any_eq_false.mpr fun d hdm => ?_
    obtain ⟨e, hee, hes, rfl⟩ := mem_succs.mp hdm
    rw [he] at hee
    rcases List.mem_append.mp hee with hee | hee
    · have := (hc e hee).1
      omega
    · rcases hd e hee with hdst | ⟨_, hcd⟩
      · simp [h.test_new (q := (· == .errMatch)) (fun _ => rfl) rfl hdst]
      · obtain ⟨hlt, hne⟩ := hC e.dst hcd
        rw [h.kind_old hlt]
        simpa using hne
  unfold fallibleNodes
  have hsize : g'.size = g.size + ks.length := by simp [Graph.size, hk]
  rw [hsize, List.range_add, List.filter_append, List.filter_congr hold]
  simp [List.filter_map, Function.comp_def, hnew]

/-- every handler of `hs` has its `IntoResponse` child and its `pavex::Error::new` in `g0` -/
def Eligible (g0 : Graph) (hs : List Nat) : Prop :=
  ∀ x ∈ hs, x < g0.size ∧ (g0.succs x).head?.isSome = true ∧ (Pxv.Err.errorNewOf g0 x).isSome = true

instance (g0 : Graph) (hs : List Nat) : Decidable (Eligible g0 hs) := by unfold Eligible; exact inferInstance

/-- how many error handlers of `hs` get their observers attached (↔ the handlers that reach
    `attached_observer_indexes.insert` after the `for error_observer_id` loop) -/
def fired (obs : List Nat) : Graph → List Nat → Nat
  | _, [] => 0
  | g, h :: hs =>
    if obs.isEmpty then 0 else
    match (g.succs h).head?, errorNewOf g h with
    | some child, some enew => fired obs (attachObservers g enew child obs (some h)) hs + 1
    | _, _ => fired obs g hs

/-- the children of the handlers `hs` in `g0` (the `IntoResponse` nodes the observers must happen before) -/
def ChildOf (g0 : Graph) (hs : List Nat) (d : Nat) : Prop := ∃ x ∈ hs, (g0.succs x).head? = some d

theorem splice_fired (obs : List Nat) (hne : obs.isEmpty = false) (g0 : Graph) (hc : Closed g0) :
    ∀ (hs : List Nat) (g : Graph) (all : List Nat), (∀ x ∈ hs, x ∈ all) → Ext (ChildOf g0 all) g0 g → Eligible g0 hs →
      fired obs g hs = hs.length ∧ Ext (ChildOf g0 all) g0 (splice obs g hs)
  | [], g, _, _, hext, _ => ⟨rfl, hext⟩
  | x :: hs, g, all, hall, hext, hel => by
    obtain ⟨hx, hcs, hes⟩ := hel x List.mem_cons_self
    obtain ⟨c, hc'⟩ := Option.isSome_iff_exists.mp hcs
    obtain ⟨e, he⟩ := Option.isSome_iff_exists.mp hes
    have hc2 := hext.child x hx c hc'
    have he2 := hext.errorNewOf hc x hx e he
    have hchild : ChildOf g0 all c := ⟨x, hall x List.mem_cons_self, hc'⟩
    have hext2 := attachObservers_ext g0 e c hchild obs g (some x) hext
      (fun h0 => by simp [h0] at hne)
    obtain ⟨ih1, ih2⟩ := splice_fired obs hne g0 hc hs (attachObservers g e c obs (some x)) all
      (fun y hy => hall y (List.mem_cons_of_mem _ hy)) hext2
      (fun y hy => hel y (List.mem_cons_of_mem _ hy))
    constructor
    · simp only [fired, hne, Bool.false_eq_true, ↓reduceIte, hc2, he2, ih1, List.length_cons]
    · simp only [splice, hne, Bool.false_eq_true, ↓reduceIte, hc2, he2]
      exact ih2

/-- how many fallible nodes get a `MatchBranching` node -/
def injected : Graph → List Nat → Nat
  | _, [] => 0
  | g, x :: xs =>
    if ((g.succs x).filter (fun m => g.kind m == .okMatch || g.kind m == .errMatch)).length != 2
    then injected g xs else injected (injectOne g x) xs + 1

theorem foldl_addEdge (b : Nat) : ∀ (ms : List Nat) (g : Graph),
    ms.foldl (fun acc m => addEdge acc b m .move) g =
      ⟨g.nodes, g.edges ++ ms.map (fun m => (⟨b, m, .move⟩ : Edge))⟩
  | [], g => by simp
  | m :: ms, g => by
    rw [List.foldl_cons, foldl_addEdge b ms]
    simp [addEdge]

theorem injectOne_nodes_not (g : Graph) (x : Nat)
    (h : (((g.succs x).filter
      (fun m => g.kind m == .okMatch || g.kind m == .errMatch)).length != 2) = true) :
    injectOne g x = g := by
  unfold injectOne
  simp only [h, ↓reduceIte]

theorem injectOne_eq (g : Graph) (x : Nat) (h : (matcherSuccs g x).length = 2) :
    injectOne g x = ⟨g.nodes ++ [.branch],
      (g.edges.filter (fun e => !(e.src == x && (matcherSuccs g x).contains e.dst))) ++
        (matcherSuccs g x).map (fun m => (⟨g.size, m, .move⟩ : Edge)) ++ [⟨x, g.size, .move⟩]⟩ := by
  unfold injectOne
  have : ((matcherSuccs g x).length != 2) = false := by simp [h]
  simp only [matcherSuccs] at this ⊢
  simp only [this, Bool.false_eq_true, ↓reduceIte, addNode, foldl_addEdge]
  rfl

/-- what the injection leaves alone, relative to the graph `g0` it started from: which nodes are matchers
    (it only adds `MatchBranching` nodes), and the successors of every node of `g0` it has not worked on yet. -/
structure Rel (g0 g : Graph) (done : List Nat) : Prop where
  size : g0.size ≤ g.size
  matcher : ∀ n, (g.kind n == .okMatch || g.kind n == .errMatch) = (g0.kind n == .okMatch || g0.kind n == .errMatch)
  succs : ∀ y, y < g0.size → y ∉ done → g.succs y = g0.succs y

theorem Rel.refl (g : Graph) : Rel g g [] :=
  { size := Nat.le_refl _, matcher := fun _ => rfl, succs := fun _ _ _ => rfl }

theorem Rel.matcherSuccs_eq {g0 g : Graph} {done : List Nat} (h : Rel g0 g done) (y : Nat)
    (hy : y < g0.size) (hd : y ∉ done) : matcherSuccs g y = matcherSuccs g0 y := by
  unfold Pxv.Err.matcherSuccs
  rw [h.succs y hy hd]
  exact List.filter_congr fun d _ => h.matcher d

theorem Rel.step {g0 g : Graph} {done : List Nat} (h : Rel g0 g done) (x : Nat)
    (h2 : (matcherSuccs g x).length = 2) : Rel g0 (injectOne g x) (x :: done) := by
  have hnodes : (injectOne g x).nodes = g.nodes ++ [.branch] := by rw [injectOne_eq g x h2]
  refine { size := ?_, matcher := fun n => ?_, succs := fun y hy hyd => ?_ }
  · have := h.size
    simp only [Graph.size, hnodes, List.length_append, List.length_singleton] at this ⊢
    omega
  · rw [← h.matcher n]
    rcases Nat.lt_or_ge n g.size with hn | hn
    · rw [kind_old_of_append hnodes hn]
    · rw [kind_of_ge hn]
      rcases kind_new_of_append hnodes hn with hm | hm
      · rw [List.mem_singleton.mp hm]; rfl
      · rw [hm]
  · have hyx : y ≠ x := fun hc => hyd (by simp [hc])
    have hys : y ≠ g.size := by have := h.size; omega
    rw [← h.succs y hy fun hc => hyd (List.mem_cons_of_mem _ hc), injectOne_eq g x h2]
    simp only [Graph.succs, List.filter_append, List.map_append, List.filter_filter]
    -- of the edges that leave `y`, none was removed, and none of the new ones leaves `y`
    have hkept : (g.edges.filter
          (fun a => a.src == y && !(a.src == x && (matcherSuccs g x).contains a.dst))) =
        g.edges.filter (fun a => a.src == y) :=
      List.filter_congr fun e _ => by by_cases hs : e.src = y <;> simp [hs, hyx]
    have hnew : ((matcherSuccs g x).map (fun m => (⟨g.size, m, .move⟩ : Edge))).filter
        (fun a => a.src == y) = [] :=
      List.filter_eq_nil_iff.mpr fun e he => by
        obtain ⟨m, _, rfl⟩ := List.mem_map.mp he
        simpa using hys.symm
    rw [hkept, hnew]
    simp [hyx.symm]

theorem injected_eq_length (g0 : Graph) : ∀ (xs : List Nat) (g : Graph) (done : List Nat),
    Rel g0 g done → xs.Nodup → (∀ x ∈ xs, x < g0.size ∧ x ∉ done ∧ (matcherSuccs g0 x).length = 2) →
      injected g xs = xs.length
  | [], _, _, _, _, _ => rfl
  | x :: xs, g, done, hr, hnd, hall => by
    obtain ⟨hx, hxd, h2⟩ := hall x List.mem_cons_self
    rw [← hr.matcherSuccs_eq x hx hxd] at h2
    have hnd' := List.nodup_cons.mp hnd
    have hcond : (((g.succs x).filter
        (fun m => g.kind m == .okMatch || g.kind m == .errMatch)).length != 2) = false := by
      simpa [matcherSuccs] using h2
    simp only [injected, hcond, Bool.false_eq_true, ↓reduceIte, List.length_cons]
    rw [injected_eq_length g0 xs (injectOne g x) (x :: done) (hr.step x h2) hnd'.2]
    intro y hy
    obtain ⟨hy1, hy2, hy3⟩ := hall y (List.mem_cons_of_mem _ hy)
    exact ⟨hy1, fun hmem => (List.mem_cons.mp hmem).elim (fun h => hnd'.1 (h ▸ hy)) hy2, hy3⟩

theorem attachObservers_nodes : ∀ (obs : List Nat) (g : Graph) (enew child : Nat) (prev : Option Nat),
    (attachObservers g enew child obs prev).nodes = g.nodes ++ obs.map Kind.observer
  | [], g, _, _, prev => by
    cases prev <;> simp [attachObservers, addEdge]
  | o :: rest, g, enew, child, prev => by
    simp only [attachObservers, addNode]
    rw [attachObservers_nodes rest]
    cases prev <;> simp [addEdge]

/-- the edges `attachObservers` adds, in closed form -/
def genEdges (enew child : Nat) : Nat → Nat → Option Nat → List Edge
  | _, 0, prev =>
    match prev with
    | some p => [⟨p, child, .before⟩]
    | none => []
  | n0, k + 1, prev =>
    (match prev with
     | some p => [(⟨p, n0, .before⟩ : Edge)]
     | none => []) ++ [⟨enew, n0, .shared⟩] ++ genEdges enew child (n0 + 1) k (some n0)

theorem attachObservers_edges (enew child : Nat) : ∀ (obs : List Nat) (g : Graph) (prev : Option Nat),
    (attachObservers g enew child obs prev).edges = g.edges ++ genEdges enew child g.size obs.length prev
  | [], g, prev => by
    cases prev <;> simp [attachObservers, genEdges, addEdge]
  | o :: rest, g, prev => by
    simp only [attachObservers, List.length_cons, genEdges]
    rw [attachObservers_edges enew child rest]
    cases prev <;> simp [addEdge, addNode, Graph.size]

/-- position `j` of the chain `attachObservers` lays out: the `k` new nodes from `n0` on, then `child` -/
def chainAt (n0 k child j : Nat) : Nat := if j < k then n0 + j else child

theorem chainAt_lt {n0 k child j : Nat} (h : j < k) : chainAt n0 k child j = n0 + j := if_pos h

theorem chainAt_last (n0 k child : Nat) : chainAt n0 k child k = child := if_neg (Nat.lt_irrefl k)

theorem chainAt_succ (n0 k child j : Nat) : chainAt n0 (k + 1) child (j + 1) = chainAt (n0 + 1) k child j := by
  simp only [chainAt, Nat.add_lt_add_iff_right, Nat.succ_add_eq_add_succ]

theorem chainAt_eq_child {n0 k child j : Nat} (h : chainAt n0 k child j < n0) : chainAt n0 k child j = child :=
  if_neg fun hj => Nat.not_lt.mpr (Nat.le_add_right n0 j) (chainAt_lt hj ▸ h)

theorem chainAt_inj {n0 k child i j : Nat} (hc : child < n0) (hi : i ≤ k) (hj : j ≤ k)
    (h : chainAt n0 k child i = chainAt n0 k child j) : i = j := by
  unfold chainAt at h
  split at h <;> split at h <;> omega

theorem mem_genEdges_before (enew child : Nat) : ∀ (k n0 : Nat) (prev : Option Nat) (a b : Nat),
    (⟨a, b, .before⟩ : Edge) ∈ genEdges enew child n0 k prev ↔
      (prev = some a ∧ b = chainAt n0 k child 0) ∨ ∃ i, i < k ∧ a = n0 + i ∧ b = chainAt n0 k child (i + 1)
  | 0, n0, prev, a, b => by
    have h0 : (⟨a, b, .before⟩ : Edge) ∈ genEdges enew child n0 0 prev ↔
        prev = some a ∧ b = child := by
      cases prev <;> simp [genEdges, eq_comm]
    rw [h0, chainAt_last]
    exact ⟨.inl, fun h => h.elim id fun ⟨i, hi, _⟩ => absurd hi (Nat.not_lt_zero i)⟩
  | k + 1, n0, prev, a, b => by
    have h1 : (⟨a, b, .before⟩ : Edge) ∈ genEdges enew child n0 (k + 1) prev ↔
        (prev = some a ∧ b = n0) ∨
          (⟨a, b, .before⟩ : Edge) ∈ genEdges enew child (n0 + 1) k (some n0) := by
      cases prev <;> simp [genEdges, eq_comm]
    rw [h1, mem_genEdges_before enew child k (n0 + 1) (some n0) a b, Nat.exists_lt_succ_left]
    simp only [chainAt_succ, chainAt_lt k.succ_pos, Nat.add_zero, Option.some.injEq,
      Nat.succ_add_eq_add_succ, eq_comm (a := n0) (b := a)]

theorem chainOf_of_steps {g : Graph} (f : Nat → Nat) (h0 : unitBefores g (f 0) = []) :
    ∀ k, (∀ i < k, unitBefores g (f (i + 1)) = [f i]) → ∀ fuel, k < fuel →
      chainOf g fuel (f k) = (List.range k).map f
  | 0, _, fuel + 1, _ => by simp [chainOf, h0]
  | k + 1, hs, fuel + 1, hf => by
    have ih := chainOf_of_steps f h0 k (fun i hi => hs i (Nat.lt_succ_of_lt hi)) fuel
      (Nat.lt_of_succ_lt_succ hf)
    simp [chainOf, hs k (Nat.lt_succ_self k), ih, List.range_succ]

/-- **the chain the splice builds for one error handler**: in `attachObservers g enew child obs prev` (`prev` = nothing,
    or the error handler itself: a node WITH an output, after which the first observer must run), for a
    `child` in front of which nothing is inlined yet, the chain of output-less nodes that happen before `child`
    is exactly the new nodes, in order, and they are the observers `obs`, in order. -/
theorem attachObservers_chainOf (g : Graph) (hc : Closed g) (enew child : Nat) (hchild : child < g.size)
    (hub : unitBefores g child = []) (obs : List Nat) (prev : Option Nat)
    (hprev : ∀ p, prev = some p → p < g.size ∧ isUnit (g.kind p) = false) :
    chainOf (attachObservers g enew child obs prev) (attachObservers g enew child obs prev).size child =
        (List.range obs.length).map (g.size + ·) ∧
    ∀ i (hi : i < obs.length), (attachObservers g enew child obs prev).kind (g.size + i) = .observer obs[i] := by
  have hnodes := attachObservers_nodes obs g enew child prev
  have hedges := attachObservers_edges enew child obs g prev
  generalize attachObservers g enew child obs prev = g' at hnodes hedges ⊢
  have hsize : g'.size = g.size + obs.length := by simp [Graph.size, hnodes]
  have hknew : ∀ i (hi : i < obs.length), g'.kind (g.size + i) = .observer obs[i] := by
    intro i hi
    simp only [Graph.kind, hnodes, List.getD_eq_getElem?_getD]
    rw [List.getElem?_append_right (by simp [Graph.size])]
    simp [Graph.size, hi]
  refine ⟨?_, hknew⟩
  -- the only output-less node that happens before position `i + 1` of the chain is the one at position `i`
  have hstep : ∀ j, j ≤ obs.length → ∀ p,
      p ∈ unitBefores g' (chainAt g.size obs.length child j) ↔
        ∃ i, j = i + 1 ∧ p = g.size + i := by
    intro j hj p
    rw [mem_unitBefores, hedges, List.mem_append, mem_genEdges_before]
    constructor
    · rintro ⟨-, hold | ⟨hpv, -⟩ | ⟨i, hi, rfl, hb⟩, hu⟩
      · -- an edge of `g` ends in `child`, and nothing without output happens before `child` in `g`
        obtain ⟨hps, hfd⟩ := hc _ hold
        rw [chainAt_eq_child hfd] at hold
        have hpu : isUnit (g.kind p) = true := by rwa [← kind_old_of_append hnodes hps]
        have := mem_unitBefores.mpr ⟨hps, hold, hpu⟩
        rw [hub] at this
        cases this
      · -- the edge leaves `prev`, which has an output
        obtain ⟨hpl, hpu⟩ := hprev p hpv
        rw [kind_old_of_append hnodes hpl, hpu] at hu
        cases hu
      · -- a link of the chain: it ends at one position only
        exact ⟨i, chainAt_inj hchild hj hi hb, rfl⟩
    · rintro ⟨i, rfl, rfl⟩
      refine ⟨hsize ▸ Nat.add_lt_add_left hj _, .inr (.inr ⟨i, hj, rfl, rfl⟩), ?_⟩
      rw [hknew i hj]
      rfl
  have hfirst : unitBefores g' (chainAt g.size obs.length child 0) = [] := by
    refine List.eq_nil_iff_forall_not_mem.mpr fun p hp => ?_
    obtain ⟨i, h0, -⟩ := (hstep 0 (Nat.zero_le _) p).mp hp
    cases h0
  have hlink : ∀ i < obs.length, unitBefores g' (chainAt g.size obs.length child (i + 1)) =
      [chainAt g.size obs.length child i] := by
    intro i hi
    refine eq_singleton_of_nodup (unitBefores_nodup g' _) fun p => ?_
    rw [hstep (i + 1) hi p, chainAt_lt hi]
    constructor
    · rintro ⟨i', hi', rfl⟩
      rw [Nat.succ.inj hi']
    · rintro rfl
      exact ⟨i, rfl, rfl⟩
  have hfuel : obs.length < g'.size :=
    hsize ▸ Nat.lt_add_of_pos_left (Nat.zero_lt_of_lt hchild)
  have hchain :=
    chainOf_of_steps (chainAt g.size obs.length child) hfirst obs.length hlink g'.size hfuel
  rw [chainAt_last] at hchain
  rw [hchain]
  exact List.map_congr_left fun i hi => chainAt_lt (List.mem_range.mp hi)

/-- `attachObservers_chainOf` under the further hypothesis `hne` (without observers, no `prev`), which the
    proof does not need. -/
theorem attachObservers_chain (g : Graph) (hc : Closed g) (enew child : Nat) (hchild : child < g.size)
    (hub : unitBefores g child = []) (obs : List Nat) (prev : Option Nat)
    (hprev : ∀ p, prev = some p → p < g.size ∧ isUnit (g.kind p) = false) (hne : obs = [] → prev = none) :
    chainOf (attachObservers g enew child obs prev) (attachObservers g enew child obs prev).size child =
        (List.range obs.length).map (g.size + ·) ∧
    ∀ i (hi : i < obs.length), (attachObservers g enew child obs prev).kind (g.size + i) = .observer obs[i] :=
  attachObservers_chainOf g hc enew child hchild hub obs prev hprev

end Pxv.Err
