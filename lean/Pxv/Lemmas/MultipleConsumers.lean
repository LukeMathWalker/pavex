import Pxv.Lemmas.InsertClone
import Pxv.Lemmas.Borrow
/-! `multiple_consumers` (mirrored in Model/Borrow.lean): the cloning loop for one value, and the pass on graphs where
nothing competes and on graphs where whatever competes may be cloned. -/
namespace Pxv.CG
open Graph

theorem consumers_foldl_insertClone (n : Nat) (others : List Nat) (g : Graph) (hn : n < g.size) :
    (others.foldl (fun g c => (insertClone g n c).1) g).consumers n =
      (g.consumers n).filter (fun c => !others.contains c) ∧
    g.size ≤ (others.foldl (fun g c => (insertClone g n c).1) g).size := by
  induction others generalizing g with
  | nil => exact ⟨(List.filter_eq_self.mpr fun _ _ => rfl).symm, Nat.le_refl _⟩
  | cons c cs ih =>
    have hsz := size_insertClone g n c
    obtain ⟨h1, h2⟩ := ih (insertClone g n c).1 (by omega)
    refine ⟨?_, by simp only [List.foldl_cons]; omega⟩
    rw [List.foldl_cons, h1, consumers_insertClone g n c n hn, List.filter_filter]
    refine List.filter_congr fun x _ => ?_
    rw [Bool.eq_iff_iff]
    simp [and_comm]

/-- The invariant of the cloning loop of `multiple_consumers` for value `n`:
    the by-value consumers left are the original ones that received no clone, and in every set
    handled so far at most one consumer received no clone. -/
structure McInv (g : Graph) (n : Nat) (done : List (List Nat)) (st : Graph × List Nat) : Prop where
  size : g.size ≤ st.1.size
  consumers : st.1.consumers n = (g.consumers n).filter (fun c => !st.2.contains c)
  single : ∀ set ∈ done, ∀ c1 ∈ set, ∀ c2 ∈ set, st.2.contains c1 = false → st.2.contains c2 = false → c1 = c2

theorem mem_not_dropLast {l : List Nat} {x : Nat} (hx : x ∈ l) (hnd : x ∉ l.dropLast) : l.getLast? = some x := by
  have hne := List.ne_nil_of_mem hx
  rw [← List.dropLast_concat_getLast hne, List.mem_append, List.mem_singleton] at hx
  rw [List.getLast?_eq_some_getLast hne]
  exact hx.elim (absurd · hnd) (· ▸ rfl)

/-- the test `ids.length ≤ 1` of the Rust code only skips an empty loop. -/
theorem mcCloneStep_eq (n : Nat) (acc : Graph × List Nat) (set : List Nat) :
    mcCloneStep n acc set =
      (((set.filter (fun c => !acc.2.contains c)).dropLast).foldl (fun g c => (insertClone g n c).1) acc.1,
        acc.2 ++ (set.filter (fun c => !acc.2.contains c)).dropLast) := by
  simp only [mcCloneStep]
  split
  · rename_i h
    rw [List.eq_nil_of_length_eq_zero (l := List.dropLast _) (by rw [List.length_dropLast]; omega)]
    simp
  · rfl

theorem mcCloneStep_inv (g : Graph) (n : Nat) (hn : n < g.size) (done : List (List Nat))
    (st : Graph × List Nat) (set : List Nat) (h : McInv g n done st) :
    McInv g n (done ++ [set]) (mcCloneStep n st set) := by
  rw [mcCloneStep_eq]
  obtain ⟨hc, hsz⟩ := consumers_foldl_insertClone n
    (set.filter (fun c => !st.2.contains c)).dropLast st.1 (Nat.lt_of_lt_of_le hn h.size)
  refine { size := Nat.le_trans h.size hsz, consumers := ?consumers, single := ?single }
  case consumers =>
    rw [hc, h.consumers, List.filter_filter]
    refine List.filter_congr fun x _ => ?_
    rw [Bool.eq_iff_iff]
    simp [and_comm]
  case single =>
    intro s hs c1 hc1 c2 hc2 h1 h2
    simp only [List.contains_append, Bool.or_eq_false_iff] at h1 h2
    rcases List.mem_append.mp hs with hs | hs
    · exact h.single s hs c1 hc1 c2 hc2 h1.1 h2.1
    · -- a consumer of the new set that received no clone is the last of those that had none before
      obtain rfl := List.mem_singleton.mp hs
      have last : ∀ c ∈ s, st.2.contains c = false ∧
          ((s.filter (fun c => !st.2.contains c)).dropLast).contains c = false →
          (s.filter (fun c => !st.2.contains c)).getLast? = some c := fun c hc hn =>
        mem_not_dropLast (List.mem_filter.mpr ⟨hc, by rw [hn.1]; rfl⟩) (by simpa using hn.2)
      exact Option.some.inj ((last c1 hc1 h1).symm.trans (last c2 hc2 h2))

theorem mcCloneSets_inv (g : Graph) (n : Nat) (hn : n < g.size) (sets : List (List Nat)) :
    McInv g n sets (mcCloneSets g n sets) :=
  have start : McInv g n [] (g, []) :=
    { size := Nat.le_refl _
      consumers := (List.filter_eq_self.mpr fun _ _ => rfl).symm
      single := fun _ hs => nomatch hs }
  foldl_invariant (McInv g n) start fun done s st _ h => mcCloneStep_inv g n hn done st s h

/-- nothing competes for a value: at most one node takes it by value, or it is Copy or a reference, or no control-flow path
    (sink) is reached by two of the nodes that take it by value (they sit on different `match` arms). -/
def McQuiet (g : Graph) : Prop :=
  ∀ n, (toSet (g.consumers n)).length ≤ 1 ∨ (g.node n).copy = true ∨ (g.node n).isRef = true ∨
    (∀ s ∈ g.sinks, ((toSet (g.consumers n)).filter (fun c => g.reaches c s)).length ≤ 1)

theorem mcQuiet_of_nodes {g : Graph} (hwf : g.wellFormed = true)
    (h : ∀ n, n < g.size → (toSet (g.consumers n)).length ≤ 1 ∨ (g.node n).copy = true ∨ (g.node n).isRef = true ∨
      (∀ s ∈ g.sinks, ((toSet (g.consumers n)).filter (fun c => g.reaches c s)).length ≤ 1)) : McQuiet g := by
  intro n
  by_cases hn : n < g.size
  · exact h n hn
  · have : g.outEdges n = [] := List.filter_eq_nil_iff.2 fun e he => by
      have := (lt_size_of_mem_edges hwf he).1
      simp only [beq_iff_eq]; omega
    exact Or.inl (by simp [consumers, this, toSet])

theorem mc_sets_nil (g : Graph) (consumers : List Nat) (sinks : List Nat)
    (h : ∀ s ∈ sinks, (consumers.filter (fun c => g.reaches c s)).length ≤ 1) :
    sinks.foldl (fun (acc : List (List Nat)) s =>
      let cs := consumers.filter (fun c => g.reaches c s)
      if cs.length > 1 && !acc.contains cs then acc ++ [cs] else acc) [] = [] := by
  refine List.foldlRecOn (motive := (· = [])) _ _ rfl fun acc hacc s hs => ?_
  have : ¬ ((consumers.filter (fun c => g.reaches c s)).length > 1) := Nat.not_lt.2 (h s hs)
  simp only [this, decide_false, Bool.false_and, Bool.false_eq_true, if_false]
  exact hacc

/-- one node of `multiple_consumers`: left alone, or contended; then reported when it may not be cloned, cloned otherwise. -/
theorem mcNode_cases (sinks : List Nat) (st : Graph × List Diag) (n : Nat) :
    mcNode sinks st n = st ∨
    (¬ (toSet (st.1.consumers n)).length ≤ 1 ∧ (st.1.node n).copy = false ∧ (st.1.node n).isRef = false ∧
      (¬ ∀ s ∈ sinks, ((toSet (st.1.consumers n)).filter (fun c => st.1.reaches c s)).length ≤ 1) ∧
      (((st.1.node n).cloneable = false ∧ ∃ ds, mcNode sinks st n = (st.1, st.2 ++ ds)) ∨
       ((st.1.node n).cloneable = true ∧ ∃ sets, mcNode sinks st n = ((mcCloneSets st.1 n sets).1, st.2)))) := by
  generalize hr : mcNode sinks st n = r
  unfold mcNode at hr
  simp only [] at hr
  generalize hsets : List.foldl _ [] sinks = sets at hr
  split at hr
  · exact Or.inl hr.symm
  · rename_i h1
    split at hr
    · exact Or.inl hr.symm
    · rename_i h2
      simp only [Bool.or_eq_true, not_or, Bool.not_eq_true] at h2
      split at hr
      · exact Or.inl hr.symm
      · rename_i h3
        -- the competing sets are not all trivial: some sink is reached by two consumers
        have h4 : ¬ ∀ s ∈ sinks,
            ((toSet (st.1.consumers n)).filter (fun c => st.1.reaches c s)).length ≤ 1 :=
          fun hall => h3 (by rw [← hsets, mc_sets_nil _ _ _ hall]; rfl)
        refine Or.inr ⟨h1, h2.1, h2.2, h4, ?_⟩
        split at hr
        · rename_i hc
          exact Or.inl ⟨by simpa using hc, _, hr.symm⟩
        · rename_i hc
          exact Or.inr ⟨by simpa using hc, _, hr.symm⟩

/-- **`multiple_consumers` leaves rule-abiding call graphs alone**: when no value has two by-value consumers on one
    control-flow path (unless it is Copy or a reference), the pass returns the graph unchanged and reports nothing. -/
theorem multipleConsumers_quiet {g : Graph} (h : McQuiet g) : multipleConsumers g = (g, []) := by
  unfold multipleConsumers
  refine List.foldlRecOn (motive := fun st => st = (g, [])) _ _ rfl fun st hst n _ => ?_
  subst hst
  rcases mcNode_cases g.sinks (g, []) n with e | ⟨hmany, hcopy, href, hcompete, _⟩
  · exact e
  · -- each way of being quiet contradicts one of the four conditions under which the pass acts
    rcases h n with a | a | a | a
    · exact absurd a hmany
    · rw [hcopy] at a
      cases a
    · rw [href] at a
      cases a
    · exact absurd a hcompete

theorem Clones.mcCloneSets {g0 g : Graph} {D C : Nat → Prop} (h : Clones g0 g D C) {n : Nat} (hn : D n) (hC : ∀ c, C c)
    (sets : List (List Nat)) : Clones g0 (mcCloneSets g n sets).1 D C := by
  unfold CG.mcCloneSets
  refine List.foldlRecOn (motive := fun st : Graph × List Nat => Clones g0 st.1 D C) _ _ h
    fun st h set _ => ?_
  rw [mcCloneStep_eq]
  exact List.foldlRecOn (motive := fun g => Clones g0 g D C) _ _ h fun g h c _ => h.step hn (hC c)

/-- every value with several by-value consumers is Copy, a reference, or may be cloned -/
def mcCloneable (g : Graph) : Bool :=
  (List.range g.size).all (fun n => (toSet (g.consumers n)).length ≤ 1 || (g.node n).copy || (g.node n).isRef || (g.node n).cloneable)

/-- on such a graph `multiple_consumers` reports nothing, and what it returns is the graph with clones of clone-if-necessary
    values added: the flags of the original nodes, and the by-value consumers of every original value that may not be cloned,
    are as they were (which is what keeps the hypothesis true for the nodes still to be examined). -/
theorem multipleConsumers_clones {g : Graph} (hq : mcCloneable g = true) :
    Clones g (multipleConsumers g).1 (fun x => (g.node x).cloneable = true) (fun _ => True) ∧
      (multipleConsumers g).2 = [] := by
  unfold multipleConsumers
  refine List.foldlRecOn (motive := fun st : Graph × List Diag =>
      Clones g st.1 (fun x => (g.node x).cloneable = true) (fun _ => True) ∧ st.2 = [])
    _ _ ⟨Clones.refl .., rfl⟩ fun st h n hn => ?_
  obtain ⟨hcl, hdiags⟩ := h
  have hn := List.mem_range.1 hn
  rcases mcNode_cases g.sinks st n with e | ⟨hmany, hcopy, href, _, hact⟩
  · rw [e]
    exact ⟨hcl, hdiags⟩
  · -- several consumers, not Copy, not a reference, competing: the value must be cloneable
    have hn_cl : (g.node n).cloneable = true := by
      cases hc0 : (g.node n).cloneable with
      | true => rfl
      | false =>
        have hq' := List.all_eq_true.1 hq n (List.mem_range.2 hn)
        rw [← hcl.cons n hn (by simp [hc0]), ← hcl.copy n hn, ← hcl.isRef n hn, hcopy, href,
          hc0] at hq'
        simp only [Bool.or_false, decide_eq_true_eq] at hq'
        exact absurd hq' hmany
    rcases hact with ⟨hnot, _⟩ | ⟨_, sets, e⟩
    · rw [hcl.cloneable n hn, hn_cl] at hnot
      cases hnot
    · rw [e]
      exact ⟨hcl.mcCloneSets hn_cl (fun _ => trivial) sets, hdiags⟩

end Pxv.CG
