import Pxv.Model.Order
/-! Call graphs (Model/CallGraph.lean) and the ordering transition system (Model/Order.lean): duplicate-free lists of node
ids, what the accessors and the guard `canPlace` say, the runs of the system, graphs without captures. -/
namespace Pxv.CG
open Graph

theorem nodup_snoc {l : List Nat} {n : Nat} (h : l.Nodup) (hn : n ∉ l) : (l ++ [n]).Nodup :=
  List.nodup_append.2 ⟨h, by simp, fun x hx y hy e => hn (List.mem_singleton.1 hy ▸ e ▸ hx)⟩

theorem bound_snoc {l : List Nat} {k n : Nat} (h : ∀ x ∈ l, x < k) (hn : n < k) : ∀ x ∈ l ++ [n], x < k :=
  fun x hx => (List.mem_append.1 hx).elim (h x) fun hx => List.mem_singleton.1 hx ▸ hn

theorem nodup_bound_length {l : List Nat} {k : Nat} (hnd : l.Nodup) (hb : ∀ x ∈ l, x < k) : l.length ≤ k := by
  have := List.Nodup.length_le_of_subset hnd (l₂ := List.range k)
    (by intro x hx; exact List.mem_range.mpr (hb x hx))
  simpa using this

theorem exists_lt_not_mem {l : List Nat} {k : Nat} (h : l.length < k) : ∃ n, n < k ∧ n ∉ l := by
  apply Classical.byContradiction
  intro hno
  have := List.Nodup.length_le_of_subset (List.nodup_range (n := k)) (l₂ := l)
    (fun x hx => Classical.byContradiction fun hx' => hno ⟨x, List.mem_range.mp hx, hx'⟩)
  simp at this
  omega

theorem nodup_full {l : List Nat} {n : Nat} (hnd : l.Nodup) (hb : ∀ x ∈ l, x < n) (hlen : l.length = n) :
    ∀ x, x < n → x ∈ l := by
  intro x hx
  apply Classical.byContradiction
  intro hnot
  have := nodup_bound_length (List.nodup_cons.mpr ⟨hnot, hnd⟩)
    (fun y hy => (List.mem_cons.1 hy).elim (fun e => e ▸ hx) (hb y))
  simp at this
  omega

theorem mem_inEdges {g : Graph} {t : Nat} {e : Edge} : e ∈ g.inEdges t ↔ e ∈ g.edges ∧ e.dst = t := by
  simp [inEdges]

theorem mem_preds {g : Graph} {b n : Nat} : b ∈ g.preds n ↔ ∃ e ∈ g.edges, e.src = b ∧ e.dst = n := by
  simp only [preds, inEdges, List.mem_map, List.mem_filter, beq_iff_eq]
  constructor
  · rintro ⟨e, ⟨he, hd⟩, hs⟩
    exact ⟨e, he, hs, hd⟩
  · rintro ⟨e, he, hs, hd⟩
    exact ⟨e, ⟨he, hd⟩, hs⟩

theorem mem_consumers {g : Graph} {d c : Nat} :
    c ∈ g.consumers d ↔ ∃ e ∈ g.edges, e.src = d ∧ e.dst = c ∧ e.kind = .move := by
  simp only [consumers, outEdges, List.mem_map, List.mem_filter, beq_iff_eq]
  constructor
  · rintro ⟨e, ⟨⟨he, hs⟩, hk⟩, hd⟩
    exact ⟨e, he, hs, hd, hk⟩
  · rintro ⟨e, he, hs, hd, hk⟩
    exact ⟨e, ⟨⟨he, hs⟩, hk⟩, hd⟩

theorem pred_of_inEdge {g : Graph} {t : Nat} {e : Edge} (h : e ∈ g.inEdges t) : e.src ∈ g.preds t :=
  List.mem_map.mpr ⟨e, h, rfl⟩

theorem consumer_of_inEdge {g : Graph} {t : Nat} {e : Edge} (h : e ∈ g.inEdges t) (hk : e.kind = .move) :
    t ∈ g.consumers e.src :=
  mem_consumers.2 ⟨e, (mem_inEdges.1 h).1, rfl, (mem_inEdges.1 h).2, hk⟩

theorem borrower_of_inEdge {g : Graph} {t : Nat} {e : Edge} (h : e ∈ g.inEdges t)
    (hk : e.kind = .shared ∨ e.kind = .excl) : t ∈ g.borrowers e.src := by
  obtain ⟨he, hd⟩ := mem_inEdges.1 h
  simp only [borrowers, outEdges, List.mem_map, List.mem_filter, beq_iff_eq, Bool.or_eq_true]
  exact ⟨e, ⟨⟨he, rfl⟩, hk⟩, hd⟩

theorem pred_of_consumer {g : Graph} {d c : Nat} (h : c ∈ g.consumers d) : d ∈ g.preds c := by
  obtain ⟨e, he, hs, hd, _⟩ := mem_consumers.1 h
  exact mem_preds.2 ⟨e, he, hs, hd⟩

theorem inEdge_of_user {g : Graph} {w u : Nat} (h : u ∈ users g w) :
    ∃ e ∈ g.inEdges u, e.isData = true ∧ e.src = w := by
  simp only [users, outEdges, List.mem_map, List.mem_filter, beq_iff_eq] at h
  obtain ⟨e, ⟨⟨he, hs⟩, hdata⟩, hd⟩ := h
  exact ⟨e, mem_inEdges.2 ⟨he, hd⟩, hdata, hs⟩

theorem lt_size_of_mem_edges {g : Graph} (hwf : g.wellFormed = true) {e : Edge} (he : e ∈ g.edges) :
    e.src < g.size ∧ e.dst < g.size := by
  simpa using List.all_eq_true.mp hwf e he

theorem preds_lt {g : Graph} (hwf : g.wellFormed = true) {b n : Nat} (h : b ∈ g.preds n) : b < g.size ∧ n < g.size := by
  obtain ⟨e, he, rfl, rfl⟩ := mem_preds.1 h
  exact lt_size_of_mem_edges hwf he

theorem oneMover_spec {g : Graph} {A : List Nat} (h : oneMover g A = true) {d c1 c2 : Nat} (hd : d < g.size)
    (hcopy : (g.node d).copy = false) (h1 : c1 ∈ g.consumers d) (h2 : c2 ∈ g.consumers d) (hA1 : c1 ∈ A) (hA2 : c2 ∈ A) :
    c1 = c2 := by
  have := List.all_eq_true.mp h d (List.mem_range.mpr hd)
  simp only [hcopy, Bool.false_or, List.all_eq_true] at this
  simpa [hA1, hA2] using this c1 h1 c2 h2

/-- acyclicity, as a rank function that every edge increases. -/
def Ranked (g : Graph) (r : Nat → Nat) : Prop := ∀ e ∈ g.edges, r e.src < r e.dst

/-- `!is_blocked`, read as a proposition. -/
theorem canPlace_iff_preds {g : Graph} {placed : List Nat} {n : Nat} :
    canPlace g placed n = true ↔ ∀ p ∈ g.preds n, p ∈ placed ∧
      (n ∈ g.consumers p → (g.node p).copy = false → ∀ b ∈ allBorrowers g p, b ∈ placed) := by
  simp only [canPlace, List.all_eq_true]
  refine forall₂_congr fun p _ => ?_
  cases (g.node p).copy <;> by_cases hc : n ∈ g.consumers p <;> simp [hc]

theorem pos_prefix_lt {pre post : List Nat} {p n : Nat} (hp : p ∈ pre) (hn : n ∉ pre) :
    pos (pre ++ n :: post) p < pos (pre ++ n :: post) n := by
  have := List.idxOf_lt_length_of_mem hp
  simp [pos, List.idxOf_append, hp, hn, this]

theorem isRunFrom_split {g : Graph} {placed pre post : List Nat} {n : Nat}
    (h : isRunFrom g placed (pre ++ n :: post) = true) :
    canPlace g (placed ++ pre) n = true ∧ n ∉ placed ++ pre := by
  induction pre generalizing placed with
  | nil => simp_all [isRunFrom]
  | cons b pre ih =>
    simp only [List.cons_append, isRunFrom, Bool.and_eq_true] at h
    simpa using ih h.2

theorem isRun_split {g : Graph} {σ : List Nat} (h : isRun g σ = true) :
    ∀ pre n post, σ = pre ++ n :: post → canPlace g pre n = true ∧ n ∉ pre := by
  rintro pre n post rfl
  simpa using isRunFrom_split (placed := []) h

theorem isRunFrom_of_split {g : Graph} {placed σ : List Nat}
    (h : ∀ pre n post, σ = pre ++ n :: post → canPlace g (placed ++ pre) n = true ∧ n ∉ placed ++ pre) :
    isRunFrom g placed σ = true := by
  induction σ generalizing placed with
  | nil => rfl
  | cons a σ ih =>
    have ha := h [] a σ rfl
    simp only [List.append_nil] at ha
    simp only [isRunFrom, ha, Bool.and_eq_true, Bool.not_eq_true', List.contains_eq_mem,
      decide_eq_false_iff_not, not_false_eq_true, true_and]
    refine ih fun pre n post e => ?_
    simpa using h (a :: pre) n post (by rw [e]; rfl)

/-- whatever the guard of `n` forces to be placed stands strictly before `n` in every run: each invariant of the
    order (Thm/C01.lean) is an instance, read off `canPlace_iff_preds`. -/
theorem isRun_before {g : Graph} {σ : List Nat} (h : isRun g σ = true) {n x : Nat} (hn : n ∈ σ)
    (hx : ∀ placed, canPlace g placed n = true → x ∈ placed) : x ∈ σ ∧ pos σ x < pos σ n := by
  obtain ⟨pre, post, rfl⟩ := List.append_of_mem hn
  obtain ⟨hc, hn⟩ := isRun_split h pre n post rfl
  exact ⟨List.mem_append_left _ (hx _ hc), pos_prefix_lt (hx _ hc) hn⟩

theorem isRunFrom_snoc {g : Graph} {pl σ : List Nat} {m : Nat}
    (hrun : isRunFrom g pl σ = true) (hm : m ∉ pl ++ σ) (hc : canPlace g (pl ++ σ) m = true) :
    isRunFrom g pl (σ ++ [m]) = true := by
  induction σ generalizing pl with
  | nil =>
    simp only [List.append_nil] at hm hc
    simp [isRunFrom, hc, hm]
  | cons a σ ih =>
    simp only [isRunFrom, Bool.and_eq_true, List.cons_append] at hrun ⊢
    have hm' : m ∉ (pl ++ [a]) ++ σ := by simpa [List.append_assoc] using hm
    have hc' : canPlace g ((pl ++ [a]) ++ σ) m = true := by simpa [List.append_assoc] using hc
    exact ⟨hrun.1, ih hrun.2 hm' hc'⟩

theorem isRunFrom_nodup {g : Graph} {placed σ : List Nat} (h : isRunFrom g placed σ = true)
    (hp : placed.Nodup) : (placed ++ σ).Nodup := by
  induction σ generalizing placed with
  | nil => simpa using hp
  | cons a rest ih =>
    simp only [isRunFrom, Bool.and_eq_true, Bool.not_eq_true', List.contains_eq_mem,
      decide_eq_false_iff_not] at h
    have := ih h.2 (nodup_snoc hp h.1.1)
    rwa [List.append_assoc] at this

theorem isRun_nodup {g : Graph} {σ : List Nat} (h : isRun g σ = true) : σ.Nodup := by
  simpa using isRunFrom_nodup (placed := []) h List.nodup_nil

theorem held_eq_nil {g : Graph} {w : Nat} (ht : (g.node w).tied = []) (hd : (g.node w).direct = []) (fuel : Nat) :
    held g fuel w = [] := by
  cases fuel <;> simp [held, ht, hd]

/-- a node id out of range reads as a node without captures. -/
theorem lt_size_of_holds {g : Graph} {w d : Nat} (h : holds g w d = true) : w < g.size := by
  apply Decidable.byContradiction
  intro hw
  have : g.node w = {} := by simp [Graph.node, List.getD, List.getElem?_eq_none (Nat.not_lt.mp hw)]
  simp [holds, held_eq_nil, this] at h

theorem node_captureFree {g : Graph} (h : captureFree g = true) (n : Nat) :
    (g.node n).tied = [] ∧ (g.node n).direct = [] := by
  unfold Graph.node
  rw [List.getD_eq_getElem?_getD]
  cases hw : g.nodes[n]? with
  | none => exact ⟨rfl, rfl⟩
  | some nd => simpa using List.all_eq_true.mp h nd (List.mem_of_getElem? hw)

theorem held_of_captureFree {g : Graph} (h : captureFree g = true) (fuel w : Nat) : held g fuel w = [] :=
  held_eq_nil (node_captureFree h w).1 (node_captureFree h w).2 fuel

theorem allBorrowers_of_captureFree {g : Graph} (h : captureFree g = true) (d : Nat) :
    allBorrowers g d = g.borrowers d := by
  simp [allBorrowers, holderUsers, holds, held_of_captureFree h]

end Pxv.CG
