import Pxv.Model.Generate
/-! For C10: `doc[k] = v` on documents in key order. Setting a key twice composes, setting two keys
commutes once the first is present. -/
namespace Pxv.Gen

/-- what `doc[k] = f(old)` does to one entry -/
def kupd {β} (k : String) (f : Option β → β) (e : String × β) : String × β :=
  if e.1 == k then (k, f (some e.2)) else e

/-- generic "set key" on an association list in document order -/
def kset {β} (d : List (String × β)) (k : String) (f : Option β → β) : List (String × β) :=
  if d.any (·.1 == k) then d.map (kupd k f) else d ++ [(k, f none)]

theorem setTable_eq (d : Doc) (k : String) (t : Tbl) :
    d.setTable k t = kset d k (fun _ => t) := rfl

theorem tblSet_eq (t : Tbl) (k : String) (v : List Nat) :
    t.set k v = kset t k (fun _ => v) := rfl

theorem setIn_eq (d : Doc) (k k2 : String) (v : List Nat) :
    d.setIn k k2 v
      = kset d k (fun o => match o with | some t => Tbl.set t k2 v | none => [(k2, v)]) := rfl

theorem kupd_fst {β} (k : String) (f : Option β → β) (e : String × β) :
    (kupd k f e).1 = e.1 := by
  unfold kupd
  split
  · next h => exact (eq_of_beq h).symm
  · rfl

theorem kupd_kupd {β} (k : String) (f g : Option β → β) (e : String × β) :
    kupd k g (kupd k f e) = kupd k (fun o => g (some (f o))) e := by
  by_cases h : e.1 = k <;> simp [kupd, h]

theorem kupd_comm {β} {k k' : String} (h : k ≠ k') (f g : Option β → β) (e : String × β) :
    kupd k g (kupd k' f e) = kupd k' f (kupd k g e) := by
  obtain ⟨a, b⟩ := e
  by_cases h1 : a = k
  · subst h1
    simp [kupd, h]
  · by_cases h2 : a = k'
    · subst h2
      simp [kupd, h1]
    · simp [kupd, h1, h2]

theorem any_map_kupd {β} (d : List (String × β)) (k k' : String) (f : Option β → β) :
    (d.map (kupd k f)).any (·.1 == k') = d.any (·.1 == k') := by
  simp only [List.any_map, Function.comp_def, kupd_fst]

theorem map_kupd_absent {β} {d : List (String × β)} {k : String} (h : d.any (·.1 == k) = false)
    (f : Option β → β) : d.map (kupd k f) = d := by
  induction d with
  | nil => rfl
  | cons e d ih =>
    simp only [List.any_cons, Bool.or_eq_false_iff] at h
    rw [List.map_cons, ih h.2, kupd, if_neg (by simp [h.1])]

theorem kset_any {β} (d : List (String × β)) (k : String) (f : Option β → β) :
    (kset d k f).any (·.1 == k) = true := by
  unfold kset
  split
  · rwa [any_map_kupd]
  · simp

theorem kset_any_other {β} (d : List (String × β)) (k k' : String) (f : Option β → β)
    (h : k ≠ k') :
    (kset d k f).any (·.1 == k') = d.any (·.1 == k') := by
  unfold kset
  split
  · rw [any_map_kupd]
  · simp [h]

theorem kset_kset {β} (d : List (String × β)) (k : String) (f g : Option β → β) :
    kset (kset d k f) k g = kset d k (fun o => g (some (f o))) := by
  rw [kset, kset_any, if_pos rfl]
  unfold kset
  split
  · simp only [List.map_map, Function.comp_def, kupd_kupd]
  · next h => simp [map_kupd_absent (Bool.not_eq_true _ ▸ h), kupd]

theorem kset_comm_of_present {β} (d : List (String × β)) (k k' : String) (h : k ≠ k')
    (f f' : Option β → β) (hk : d.any (·.1 == k) = true) :
    kset (kset d k' f') k f = kset (kset d k f) k' f' := by
  have e : ∀ d' : List (String × β), d'.any (·.1 == k) = true →
      kset d' k f = d'.map (kupd k f) :=
    fun d' h' => by rw [kset, h', if_pos rfl]
  rw [e _ ((kset_any_other _ _ _ _ (Ne.symm h)).trans hk), e _ hk]
  unfold kset
  rw [any_map_kupd]
  split
  · simp only [List.map_map, Function.comp_def, kupd_comm h]
  · simp [kupd, Ne.symm h]

end Pxv.Gen
