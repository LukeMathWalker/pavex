import Pxv.Model.Domain
/-!
C20, the routing half, on routes as `List Seg`: routes that match a common path are in `conflict`
(and then `insert` refuses the second) or strictly ordered by `prefer`; over pairwise ordered routes
the search of `bestRoute` finds the one most preferred match, whatever the order of the list.
-/
namespace Pxv.Domain

/-- Two routes that both match a path are in conflict (one of the two `insert`s fails) or one of
    them is searched strictly before the other. -/
theorem conflict_or_prefer (a b : List Seg) (ps : List (List Char))
    (ha : segsMatch a ps = true) (hb : segsMatch b ps = true) :
    conflict a b = true ∨ prefer a b = true ∨ prefer b a = true := by
  induction a generalizing b ps with
  | nil =>
    cases ps with
    | nil =>
      cases b with
      | nil => simp [conflict]
      | cons y ys => cases y <;> simp [segsMatch] at hb
    | cons p ps => simp [segsMatch] at ha
  | cons x xs ih =>
    cases ps with
    | nil => cases x <;> simp [segsMatch] at ha
    | cons p ps =>
      cases b with
      | nil => simp [segsMatch] at hb
      | cons y ys =>
        -- two wildcards: both static prefixes are prefixes of `p`; the longer one wins
        have wild : ∀ {pr q : List Char}, pr.isPrefixOf p = true → q.isPrefixOf p = true →
            pr.length > q.length ∨ pr.length < q.length ∨ pr = q := by
          intro pr q hp hq
          rcases Nat.lt_trichotomy pr.length q.length with h | h | h
          · exact .inr (.inl h)
          · exact .inr (.inr ((List.prefix_of_prefix_length_le (List.isPrefixOf_iff_prefix.mp hp)
              (List.isPrefixOf_iff_prefix.mp hq) (Nat.le_of_eq h)).eq_of_length h))
          · exact .inl h
        cases x with
        | lit s =>
          cases y with
          | lit t =>
            simp only [segsMatch, Bool.and_eq_true, beq_iff_eq] at ha hb
            obtain ⟨rfl, ha⟩ := ha
            obtain ⟨rfl, hb⟩ := hb
            rcases ih _ ps ha hb with h | h | h
            · left; simp [conflict, h]
            · right; left; simp [prefer, Seg.rank, h]
            · right; right; simp [prefer, Seg.rank, h]
          | param q _ => right; left; simp [prefer, Seg.rank]
          | catchAll q _ => right; left; simp [prefer, Seg.rank]
        | param pr _ =>
          cases y with
          | lit t => right; right; simp [prefer, Seg.rank]
          | param q _ =>
            simp only [segsMatch, Bool.and_eq_true, decide_eq_true_eq] at ha hb
            obtain ⟨⟨hpr, _⟩, ha⟩ := ha
            obtain ⟨⟨hq, _⟩, hb⟩ := hb
            rcases wild hpr hq with h | h | rfl
            · right; left; simp [prefer, Seg.rank, h]
            · right; right; simp [prefer, Seg.rank, h]
            · rcases ih _ ps ha hb with h | h | h
              · left; simp [conflict, h]
              · right; left; simp [prefer, Seg.rank, Seg.isCatchAll, h]
              · right; right; simp [prefer, Seg.rank, Seg.isCatchAll, h]
          | catchAll q _ =>
            simp only [segsMatch, Bool.and_eq_true, decide_eq_true_eq] at ha hb
            obtain ⟨⟨hpr, _⟩, _⟩ := ha
            obtain ⟨⟨_, hq⟩, _⟩ := hb
            rcases wild hpr hq with h | h | rfl
            · right; left; simp [prefer, Seg.rank, h]
            · right; right; simp [prefer, Seg.rank, h]
            · left; simp [conflict]
        | catchAll pr _ =>
          cases y with
          | lit t => right; right; simp [prefer, Seg.rank]
          | param q _ =>
            simp only [segsMatch, Bool.and_eq_true, decide_eq_true_eq] at ha hb
            obtain ⟨⟨_, hpr⟩, _⟩ := ha
            obtain ⟨⟨hq, _⟩, _⟩ := hb
            rcases wild hpr hq with h | h | rfl
            · right; left; simp [prefer, Seg.rank, h]
            · right; right; simp [prefer, Seg.rank, h]
            · left; simp [conflict]
          | catchAll q _ =>
            simp only [segsMatch, Bool.and_eq_true] at ha hb
            obtain ⟨⟨_, hpr⟩, _⟩ := ha
            obtain ⟨⟨_, hq⟩, _⟩ := hb
            rcases wild hpr hq with h | h | rfl
            · right; left; simp [prefer, Seg.rank, h]
            · right; right; simp [prefer, Seg.rank, h]
            · left; simp [conflict]

def tailToks : List Seg → List Tok
  | [] => []
  | ss => .c '/' :: toks ss

theorem toks_cons (s : Seg) (ss : List Seg) : toks (s :: ss) = s.toks ++ tailToks ss := by
  cases ss <;> simp [toks, tailToks]

theorem conflict_nil_left {b : List Seg} (h : conflict [] b = true) : b = [] := by
  cases b with
  | nil => rfl
  | cons y ys => simp [conflict] at h

theorem conflict_nil_right {a : List Seg} (h : conflict a [] = true) : a = [] := by
  cases a with
  | nil => rfl
  | cons x xs => cases x <;> simp [conflict] at h

/-- `insert` of `R` answers `Conflict` whenever `r` is among what is left of the earlier routes,
    wherever the walk stands. -/
def Blocks (r R : List Tok) : Prop := ∀ S, r ∈ S → ∀ sl rt, insChk S R sl rt = true

/-- The `filterMap` is the `next` of `insChk`. -/
theorem mem_next {t : Tok} {r : List Tok} {S : List (List Tok)} (h : t :: r ∈ S) :
    r ∈ S.filterMap (fun r => match r with
      | t' :: r' => if t' = t then some r' else none
      | [] => none) :=
  List.mem_filterMap.mpr ⟨_, h, by simp⟩

theorem Blocks.nil : Blocks [] [] := fun S hS _ _ => by
  simpa [insChk] using hS

theorem Blocks.chars (x : List Char) {r R : List Tok} (h : Blocks r R) :
    Blocks (x.map .c ++ r) (x.map .c ++ R) := by
  induction x with
  | nil => exact h
  | cons ch cs ih =>
    intro S hS sl rt
    have hn := mem_next hS
    simp only [List.map_cons, List.cons_append, insChk]
    generalize List.filterMap _ S = next at hn ⊢
    cases next with
    | nil => cases hn
    | cons a as => simpa using ih _ hn _ _

/-- Two wildcards at the same position: only `{p}` against `{q}` goes on. -/
theorem Blocks.wild {t u : Tok} {r R : List Tok} (ht : t.isWild = true) (hu : u.isWild = true)
    (h : t = .par → u = .par → Blocks r R) : Blocks (t :: r) (u :: R) := by
  intro S hS sl rt
  have hw : S.any startsWild = true := List.any_eq_true.mpr ⟨_, hS, ht⟩
  cases u with
  | c _ => cases hu
  | star => simpa [insChk] using hw
  | par =>
    simp only [insChk, hw, if_true]
    split
    · rfl
    · rename_i hs
      cases t with
      | c _ => cases ht
      | star => exact absurd (List.any_eq_true.mpr ⟨_, hS, rfl⟩) hs
      | par => exact h rfl rfl _ (mem_next hS) _ _

theorem Blocks.tail {as bs : List Seg} (h : Blocks (toks as) (toks bs))
    (hc : conflict as bs = true) : Blocks (tailToks as) (tailToks bs) := by
  cases as with
  | nil => cases conflict_nil_left hc; exact Blocks.nil
  | cons a as' =>
    cases bs with
    | nil => exact absurd (conflict_nil_right hc) (by simp)
    | cons b bs' => exact Blocks.chars ['/'] h

theorem blocks_of_conflict (a b : List Seg) (h : conflict a b = true) :
    Blocks (toks a) (toks b) := by
  induction a generalizing b with
  | nil => cases conflict_nil_left h; exact Blocks.nil
  | cons x xs ih =>
    cases b with
    | nil => exact absurd (conflict_nil_right h) (by simp)
    | cons y ys =>
      rw [toks_cons, toks_cons]
      cases x with
      | lit s =>
        cases y with
        | lit t =>
          simp only [conflict, Bool.and_eq_true, beq_iff_eq] at h
          obtain ⟨rfl, h⟩ := h
          exact Blocks.chars _ (Blocks.tail (ih ys h) h)
        | param q _ => simp [conflict] at h
        | catchAll q _ => simp [conflict] at h
      | param p _ =>
        cases y with
        | lit t => simp [conflict] at h
        | param q _ =>
          simp only [conflict, Bool.and_eq_true, beq_iff_eq] at h
          obtain ⟨rfl, h⟩ := h
          simp only [Seg.toks, List.append_assoc]
          exact Blocks.chars _ (Blocks.wild rfl rfl fun _ _ => Blocks.tail (ih ys h) h)
        | catchAll q _ =>
          simp only [conflict, beq_iff_eq] at h
          subst h
          simp only [Seg.toks, List.append_assoc]
          exact Blocks.chars _ (Blocks.wild rfl rfl nofun)
      | catchAll p _ =>
        cases y with
        | lit t => simp [conflict] at h
        | param q _ | catchAll q _ =>
          simp only [conflict, beq_iff_eq] at h
          subst h
          simp only [Seg.toks, List.append_assoc]
          exact Blocks.chars _ (Blocks.wild rfl rfl nofun)

theorem insChk_of_conflict (a b : List Seg) (h : conflict a b = true) :
    ∀ sl rt, insChk [toks a] (toks b) sl rt = true :=
  blocks_of_conflict a b h _ (List.mem_singleton.mpr rfl)

theorem conflict_symm (a b : List Seg) : conflict a b = conflict b a := by
  induction a generalizing b with
  | nil => cases b <;> simp [conflict]
  | cons x xs ih =>
    cases b with
    | nil => cases x <;> simp [conflict]
    | cons y ys =>
      -- in each of the nine cases both sides unfold to the same comparison, up to the sides of `==`
      cases x <;> cases y <;> simp only [conflict, ih ys, Bool.beq_comm (a := (_ : List Char))]

theorem insChk_empty (R : List Tok) (sl : Bool) : insChk [] R sl true = false := by
  cases R with
  | nil => simp [insChk]
  | cons t R => cases t <;> simp [insChk]

/-- `a` and `b` go equally far (and are no catch-alls): the next segment decides. -/
def HTie (a b : Seg) : Prop :=
  (a.rank = none ∧ a = b) ∨
  (∃ m, a.rank = some m ∧ b.rank = some m ∧ a.isCatchAll = false ∧ b.isCatchAll = false)

/-- By `Seg.rank`: `x` leaves static text before `y` does (`none`: never leaves it). -/
def rankLt : Option Nat → Option Nat → Prop
  | some n, some m => n < m
  | some _, none => True
  | none, _ => False

theorem rankLt_trans : ∀ {x y z : Option Nat}, rankLt x y → rankLt y z → rankLt x z
  | some _, some _, some _, h1, h2 => Nat.lt_trans h1 h2
  | some _, some _, none, _, _ => trivial
  | some _, none, _, _, h2 => h2.elim
  | none, _, _, h1, _ => h1.elim

theorem rankLt_irrefl (x : Option Nat) : ¬ rankLt x x := by
  cases x <;> simp [rankLt]

theorem HTie.rank_eq {a b : Seg} (h : HTie a b) : a.rank = b.rank := by
  rcases h with ⟨_, rfl⟩ | ⟨m, h1, h2, _⟩
  · rfl
  · rw [h1, h2]

theorem prefer_cons (a b : Seg) (as bs : List Seg) :
    prefer (a :: as) (b :: bs) = true ↔
      rankLt b.rank a.rank ∨ (HTie a b ∧ prefer as bs = true) := by
  unfold HTie
  cases ha : a.rank with
  | none =>
    cases hb : b.rank with
    | none => simp [prefer, ha, hb, rankLt]
    | some n => simp [prefer, ha, hb, rankLt]
  | some m =>
    cases hb : b.rank with
    | none => simp [prefer, ha, hb, rankLt]
    | some n =>
      simp only [prefer, ha, hb, rankLt]
      rcases Nat.lt_trichotomy m n with h | rfl | h
      · simp [h, Nat.lt_asymm h]
        omega
      · simp
      · simp [h]

theorem HTie_symm {a b : Seg} (h : HTie a b) : HTie b a := by
  unfold HTie at *
  rcases h with ⟨h1, rfl⟩ | ⟨m, h1, h2, h3, h4⟩
  · exact Or.inl ⟨h1, rfl⟩
  · exact Or.inr ⟨m, h2, h1, h4, h3⟩

theorem HTie_trans {a b c : Seg} (h1 : HTie a b) (h2 : HTie b c) : HTie a c := by
  unfold HTie at *
  rcases h1 with ⟨ha, rfl⟩ | ⟨m, ha, hb, hca, _⟩
  · exact h2
  · rcases h2 with ⟨hb', rfl⟩ | ⟨m', hb', hc, _, hcc⟩
    · rw [hb] at hb'; cases hb'
    · rw [hb] at hb'; cases hb'
      exact Or.inr ⟨m, ha, hc, hca, hcc⟩

theorem prefer_asymm (a b : List Seg) (h : prefer a b = true) : prefer b a = false := by
  induction a generalizing b with
  | nil => simp [prefer] at h
  | cons x xs ih =>
    cases b with
    | nil => simp [prefer] at h
    | cons y ys =>
      rw [prefer_cons] at h
      rw [Bool.eq_false_iff, Ne, prefer_cons]
      rintro (hp | ⟨hp, hp'⟩)
      · rcases h with h | ⟨h, _⟩
        · exact rankLt_irrefl _ (rankLt_trans h hp)
        · exact rankLt_irrefl _ (h.rank_eq ▸ hp)
      · rcases h with h | ⟨_, h'⟩
        · exact rankLt_irrefl _ (hp.rank_eq ▸ h)
        · rw [ih ys h'] at hp'; cases hp'

theorem prefer_trans (a b c : List Seg) (h1 : prefer a b = true) (h2 : prefer b c = true) :
    prefer a c = true := by
  induction a generalizing b c with
  | nil => simp [prefer] at h1
  | cons x xs ih =>
    cases b with
    | nil => simp [prefer] at h1
    | cons y ys =>
      cases c with
      | nil => simp [prefer] at h2
      | cons z zs =>
        rw [prefer_cons] at h1 h2 ⊢
        rcases h1 with h1 | ⟨t1, h1'⟩ <;> rcases h2 with h2 | ⟨t2, h2'⟩
        · exact Or.inl (rankLt_trans h2 h1)
        · exact Or.inl (t2.rank_eq ▸ h1)
        · exact Or.inl (t1.rank_eq ▸ h2)
        · exact Or.inr ⟨HTie_trans t1 t2, ih ys zs h1' h2'⟩

/-- `b` is a matching route that is searched before every other matching route. -/
def IsBest (routes : List (Nat × List Seg)) (segs : List (List Char)) (b : Nat × List Seg) : Prop :=
  b ∈ routes ∧ segsMatch b.2 segs = true ∧
    ∀ r ∈ routes, segsMatch r.2 segs = true → r = b ∨ prefer b.2 r.2 = true

def Ordered (routes : List (Nat × List Seg)) (segs : List (List Char)) : Prop :=
  ∀ r ∈ routes, ∀ r' ∈ routes, segsMatch r.2 segs = true → segsMatch r'.2 segs = true →
    r = r' ∨ prefer r.2 r'.2 = true ∨ prefer r'.2 r.2 = true

theorem isBest_unique {routes : List (Nat × List Seg)} {segs : List (List Char)}
    {b b' : Nat × List Seg} (h : IsBest routes segs b) (h' : IsBest routes segs b') : b = b' := by
  rcases h.2.2 b' h'.1 h'.2.1 with e | p
  · exact e.symm
  · rcases h'.2.2 b h.1 h.2.1 with e | p'
    · exact e
    · rw [prefer_asymm _ _ p] at p'; cases p'

/-- What the search has found after the routes `P`. -/
def FoldInv (P : List (Nat × List Seg)) (segs : List (List Char)) :
    Option (Nat × List Seg) → Prop
  | none => ∀ r ∈ P, segsMatch r.2 segs = false
  | some b => IsBest P segs b

theorem FoldInv_unique {P : List (Nat × List Seg)} {segs : List (List Char)}
    {o o' : Option (Nat × List Seg)} (h : FoldInv P segs o) (h' : FoldInv P segs o') : o = o' := by
  match o, o', h, h' with
  | none, none, _, _ => rfl
  | none, some b, h, h' => exact absurd h'.2.1 (by simp [h b h'.1])
  | some b, none, h, h' => exact absurd h.2.1 (by simp [h' b h.1])
  | some b, some b', h, h' => exact congrArg some (isBest_unique h h')

theorem pickStep_inv {segs : List (List Char)} {P : List (Nat × List Seg)} {r : Nat × List Seg}
    {acc : Option (Nat × List Seg)} (hinv : FoldInv P segs acc)
    (hord : ∀ b ∈ P, segsMatch r.2 segs = true → segsMatch b.2 segs = true →
      r = b ∨ prefer r.2 b.2 = true ∨ prefer b.2 r.2 = true) :
    FoldInv (P ++ [r]) segs (pickStep segs acc r) := by
  have snoc : ∀ b, b ∈ P ++ [r] → segsMatch b.2 segs = true →
      (∀ x ∈ P, segsMatch x.2 segs = true → x = b ∨ prefer b.2 x.2 = true) →
      (segsMatch r.2 segs = true → r = b ∨ prefer b.2 r.2 = true) → IsBest (P ++ [r]) segs b := by
    intro b hb hm hP hr
    refine ⟨hb, hm, fun x hx => ?_⟩
    rcases List.mem_append.mp hx with hx | hx
    · exact hP x hx
    · cases List.mem_singleton.mp hx
      exact hr
  unfold pickStep
  by_cases hm : segsMatch r.2 segs = true
  · rw [if_pos hm]
    match acc, hinv with
    | none, hinv =>
      refine snoc r (by simp) hm (fun x hx hxm => ?_) fun _ => Or.inl rfl
      rw [hinv x hx] at hxm
      cases hxm
    | some b, ⟨hb1, hb2, hb3⟩ =>
      show FoldInv _ _ (if prefer r.2 b.2 = true then some r else some b)
      by_cases hp : prefer r.2 b.2 = true
      · rw [if_pos hp]
        refine snoc r (by simp) hm (fun x hx hxm => ?_) fun _ => Or.inl rfl
        rcases hb3 x hx hxm with rfl | p
        · exact Or.inr hp
        · exact Or.inr (prefer_trans _ _ _ hp p)
      · rw [if_neg hp]
        refine snoc b (by simp [hb1]) hb2 hb3 fun _ => ?_
        rcases hord b hb1 hm hb2 with e | p | p
        · exact Or.inl e
        · exact absurd p hp
        · exact Or.inr p
  · rw [if_neg hm]
    match acc, hinv with
    | none, hinv =>
      intro x hx
      rcases List.mem_append.mp hx with hx | hx
      · exact hinv x hx
      · cases List.mem_singleton.mp hx
        simpa using hm
    | some b, ⟨hb1, hb2, hb3⟩ => exact snoc b (by simp [hb1]) hb2 hb3 fun h => absurd h hm

theorem foldl_pick {segs : List (List Char)} (L P : List (Nat × List Seg))
    (acc : Option (Nat × List Seg)) (hord : Ordered (P ++ L) segs) (hinv : FoldInv P segs acc) :
    FoldInv (P ++ L) segs (L.foldl (pickStep segs) acc) := by
  induction L generalizing P acc with
  | nil => simpa using hinv
  | cons r L ih =>
    simpa using ih (P ++ [r]) (pickStep segs acc r) (by simpa using hord)
      (pickStep_inv hinv fun b hb => hord r (by simp) b (by simp [hb]))

theorem bestRoute_spec {routes : List (Nat × List Seg)} {segs : List (List Char)}
    (hord : Ordered routes segs) : FoldInv routes segs (bestRoute routes segs) := by
  simpa [bestRoute] using
    foldl_pick (segs := segs) routes [] none (by simpa using hord) (by simp [FoldInv])

theorem bestRoute_perm {r1 r2 : List (Nat × List Seg)} {segs : List (List Char)}
    (hp : r1.Perm r2) (hord : Ordered r1 segs) : bestRoute r1 segs = bestRoute r2 segs := by
  refine FoldInv_unique (bestRoute_spec hord) ?_
  match bestRoute r2 segs, bestRoute_spec (routes := r2) (segs := segs)
    fun a ha b hb => hord a (hp.mem_iff.mpr ha) b (hp.mem_iff.mpr hb) with
  | none, h => exact fun r hr => h r (hp.mem_iff.mp hr)
  | some b, h => exact ⟨hp.mem_iff.mpr h.1, h.2.1, fun x hx => h.2.2 x (hp.mem_iff.mp hx)⟩
end Pxv.Domain
