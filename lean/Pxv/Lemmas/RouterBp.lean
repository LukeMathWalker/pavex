import Pxv.Model.Router
/-! Lemmas for C07: the blueprint walk (`process_blueprint`) registers every route of every nested
    blueprint, with the nesting prefixes concatenated in front of its path and the innermost domain
    guard. -/
namespace Pxv.Router

/-- What the blueprint designates: handler `h` with method guard `g` is registered, after applying
    the prefixes / domain guards of the nesting chain, for path `full` and domain `d`. -/
inductive Reg : List Op → Option (List Char) → Option (List Char) → Nat → MGuard → List Char → Option (List Char) → Prop where
  | here {ops : List Op} {pfx dom : Option (List Char)} {h : Nat} {g : MGuard} {p : List Char} :
      Op.route h g p ∈ ops → Reg ops pfx dom h g (pfx.getD [] ++ p) dom
  | nested {ops nops : List Op} {pfx dom np nd cp cd : Option (List Char)} {h : Nat} {g : MGuard} {full : List Char}
      {d : Option (List Char)} :
      Op.nest np nd nops ∈ ops → nestingConstraints np nd = .ok (cp, cd) →
      Reg nops (joinPrefix pfx cp) (innerDomain dom cd) h g full d →
      Reg ops pfx dom h g full d

def HasHandler (st : St) (h : Nat) (g : MGuard) (full : List Char) (d : Option (List Char)) :
    Prop :=
  ∃ x, Comp.handler x ∈ st.comps ∧ x.h = h ∧ x.guard = g ∧ x.path = full ∧ x.dom = d

/-- `st'` continues `st`: the components interned so far are kept, and so is a diagnostic. Every
    step of the walk continues the state, so a handler interned when its blueprint is walked is
    still there when the queue is empty. -/
structure St.Le (st st' : St) : Prop where
  comps : ∀ c ∈ st.comps, c ∈ st'.comps
  err : st.err.isSome = true → st'.err.isSome = true

theorem St.Le.refl (st : St) : st.Le st := ⟨fun _ h => h, id⟩

theorem St.Le.trans {a b c : St} (h₁ : a.Le b) (h₂ : b.Le c) : a.Le c :=
  ⟨fun x hx => h₂.comps x (h₁.comps x hx), fun h => h₂.err (h₁.err h)⟩

theorem HasHandler.mono {st st' : St} {h : Nat} {g : MGuard} {full : List Char}
    {d : Option (List Char)} (hh : HasHandler st h g full d) (hle : st.Le st') :
    HasHandler st' h g full d :=
  let ⟨x, hx, r⟩ := hh
  ⟨x, hle.comps _ hx, r⟩

/-- The items `procOps` pushes for a list of operations. -/
def itemsOf (ops : List Op) (scope : Scope) (pfx dom : Option (List Char)) : List Item :=
  ops.filterMap (fun o => match o with
    | .nest p d nops =>
      some { parent := scope, pfx := pfx, dom := dom, nbPfx := p, nbDom := d, ops := nops }
    | _ => none)

theorem fail_comps (st : St) (e : Reject) : (st.fail e).comps = st.comps := by
  unfold St.fail
  split <;> rfl

theorem fail_err (st : St) (e : Reject) : (st.fail e).err.isSome = true := by
  unfold St.fail
  split
  · assumption
  · rfl

theorem fail_err_mono (st : St) (e : Reject) (h : st.err.isSome = true) : (st.fail e).err = st.err := by
  unfold St.fail
  simp [h]

theorem checkRoutePath_comps (p : List Char) (st : St) :
    (checkRoutePath p st).comps = st.comps := by
  unfold checkRoutePath
  split
  · exact fail_comps _ _
  · rfl

theorem checkRoutePath_err (p : List Char) (st : St) (h : st.err.isSome = true) :
    (checkRoutePath p st).err.isSome = true := by
  unfold checkRoutePath
  split
  · exact fail_err _ _
  · exact h

theorem noteDomain_comps (st : St) (cd : Option (List Char)) :
    (st.noteDomain cd).comps = st.comps := by
  unfold St.noteDomain
  cases cd with
  | none => rfl
  | some g =>
    simp only
    split <;> rfl

theorem noteDomain_err (st : St) (cd : Option (List Char)) : (st.noteDomain cd).err = st.err := by
  unfold St.noteDomain
  cases cd with
  | none => rfl
  | some g =>
    simp only
    split <;> rfl

theorem St.le_fail (st : St) (e : Reject) : st.Le (st.fail e) :=
  ⟨fun _ hc => (fail_comps st e).symm ▸ hc, fun _ => fail_err st e⟩

theorem St.le_noteDomain (st : St) (cd : Option (List Char)) : st.Le (st.noteDomain cd) :=
  ⟨fun _ hc => (noteDomain_comps st cd).symm ▸ hc, fun h => (noteDomain_err st cd).symm ▸ h⟩

theorem St.le_intern (st : St) (cs : List Comp) (n : Nat) :
    st.Le { st with comps := st.comps ++ cs, nextScope := n } :=
  ⟨fun _ hc => List.mem_append_left _ hc, id⟩

theorem St.le_checkRoutePath (p : List Char) (st : St) : st.Le (checkRoutePath p st) :=
  ⟨fun _ hc => (checkRoutePath_comps p st).symm ▸ hc, checkRoutePath_err p st⟩

/-- Walking the operations `ops` of one blueprint takes state `st` and queue `q` to `st'` and `q'`:
    the nested blueprints are queued behind `q`, the state is continued, and every route of `ops`
    itself is interned behind the prefix. -/
structure Walked (ops : List Op) (scope : Scope) (dom pfx : Option (List Char)) (st : St)
    (q : List Item) (st' : St) (q' : List Item) : Prop where
  queue : q' = q ++ itemsOf ops scope pfx dom
  le : st.Le st'
  routes : ∀ h g p, Op.route h g p ∈ ops → HasHandler st' h g (pfx.getD [] ++ p) dom

theorem procOps_spec : ∀ (ops : List Op) (scope : Scope) (dom pfx : Option (List Char)) (st : St)
    (fb : Option Nat) (q : List Item),
    Walked ops scope dom pfx st q
      (procOps ops scope dom pfx st fb q).1 (procOps ops scope dom pfx st fb q).2.2 := by
  intro ops
  induction ops with
  | nil =>
    intro scope dom pfx st fb q
    exact { queue := by simp [procOps, itemsOf], le := .refl _, routes := by simp }
  | cons o os ih =>
    intro scope dom pfx st fb q
    have tail : ∀ {h g p}, Op.route h g p ≠ o → Op.route h g p ∈ o :: os →
        Op.route h g p ∈ os :=
      fun hne hmem => (List.mem_cons.mp hmem).resolve_left hne
    cases o with
    | route h g path =>
      simp only [procOps]
      have w := ih scope dom pfx
        (addHandler (checkRoutePath path st) h g (pfx.getD [] ++ path) dom scope) fb q
      refine
        { queue := w.queue
          le := ((St.le_checkRoutePath path st).trans (St.le_intern ..)).trans w.le
          routes := fun h' g' p' hmem => ?_ }
      rcases List.mem_cons.mp hmem with e | e
      · cases e
        exact ⟨{ id := (checkRoutePath path st).comps.length, h := h, guard := g,
                 path := pfx.getD [] ++ path, dom := dom,
                 scope := scope ++ [(checkRoutePath path st).nextScope] },
          w.le.comps _ (by simp [addHandler]), rfl, rfl, rfl, rfl⟩
      · exact w.routes h' g' p' e
    | fallback f =>
      simp only [procOps]
      have w := ih scope dom pfx st (some f) q
      exact { w with routes := fun h' g' p' hmem => w.routes h' g' p' (tail nofun hmem) }
    | nest p d nops =>
      simp only [procOps]
      have w := ih scope dom pfx st fb
        (q ++ [{ parent := scope, pfx := pfx, dom := dom, nbPfx := p, nbDom := d, ops := nops }])
      exact
        { queue := w.queue.trans (List.append_assoc ..)
          le := w.le
          routes := fun h' g' p' hmem => w.routes h' g' p' (tail nofun hmem) }

theorem procBp_spec (ops : List Op) (scope : Scope) (dom pfx : Option (List Char)) (isRoot : Bool)
    (st : St) (q : List Item) :
    Walked ops scope dom pfx st q
      (procBp ops scope dom pfx isRoot st q).1 (procBp ops scope dom pfx isRoot st q).2 := by
  have w := procOps_spec ops scope dom pfx st none q
  unfold procBp
  generalize procOps ops scope dom pfx st none q = r at w
  obtain ⟨st', fb, q'⟩ := r
  simp only at w ⊢
  split
  · exact w
  · exact
      { queue := w.queue
        le := w.le.trans (St.le_intern ..)
        routes := fun h g p hm => (w.routes h g p hm).mono (St.le_intern ..) }

/-- Work left in the queue: one step per nested blueprint, now or later. -/
def work (q : List Item) : Nat := (q.map (fun it => 1 + nestsList it.ops)).sum

theorem work_append (a b : List Item) : work (a ++ b) = work a + work b := by
  simp [work, List.sum_append]

theorem work_itemsOf (ops : List Op) (scope : Scope) (pfx dom : Option (List Char)) :
    work (itemsOf ops scope pfx dom) = nestsList ops := by
  induction ops with
  | nil => simp [work, itemsOf, nestsList]
  | cons o os ih =>
    cases o with
    | route h g p =>
      show work (itemsOf os scope pfx dom) = 0 + nestsList os
      rw [ih, Nat.zero_add]
    | fallback f =>
      show work (itemsOf os scope pfx dom) = 0 + nestsList os
      rw [ih, Nat.zero_add]
    | nest p d nops =>
      show 1 + nestsList nops + work (itemsOf os scope pfx dom) = 1 + nestsList nops + nestsList os
      rw [ih]

theorem mem_itemsOf {ops nops : List Op} {np nd : Option (List Char)}
    (h : Op.nest np nd nops ∈ ops) (scope : Scope) (pfx dom : Option (List Char)) :
    ({ parent := scope, pfx := pfx, dom := dom, nbPfx := np, nbDom := nd, ops := nops } : Item) ∈
      itemsOf ops scope pfx dom :=
  List.mem_filterMap.mpr ⟨_, h, rfl⟩

/-- `st` has a handler for every registration of the queued blueprint `it` and of those nested in
    it. -/
def Serves (st : St) (it : Item) : Prop :=
  ∀ cp cd, nestingConstraints it.nbPfx it.nbDom = .ok (cp, cd) →
    ∀ h g full d, Reg it.ops (joinPrefix it.pfx cp) (innerDomain it.dom cd) h g full d →
      HasHandler st h g full d

/-- A registration of a blueprint is a route of its own, interned when the blueprint is walked
    (`st₁`), or one of a nested blueprint, which is in the queue by then. -/
theorem hasHandler_of_reg {ops : List Op} {scope : Scope} {pfx dom : Option (List Char)}
    {st₁ st : St}
    (hroutes : ∀ h g p, Op.route h g p ∈ ops → HasHandler st₁ h g (pfx.getD [] ++ p) dom)
    (hle : st₁.Le st) (hitems : ∀ it ∈ itemsOf ops scope pfx dom, Serves st it)
    {h : Nat} {g : MGuard} {full : List Char} {d : Option (List Char)}
    (hreg : Reg ops pfx dom h g full d) : HasHandler st h g full d := by
  cases hreg with
  | here hmem => exact (hroutes h g _ hmem).mono hle
  | nested hmem hcon hsub =>
    exact hitems _ (mem_itemsOf hmem scope pfx dom) _ _ hcon h g full d hsub

theorem procQueue_spec : ∀ (fuel : Nat) (q : List Item) (st : St), work q ≤ fuel →
    st.Le (procQueue fuel q st) ∧
    ((procQueue fuel q st).err = none → ∀ it ∈ q, Serves (procQueue fuel q st) it) := by
  intro fuel
  induction fuel with
  | zero =>
    intro q st hw
    cases q with
    | nil => exact ⟨.refl _, fun _ _ h => nomatch h⟩
    | cons a as => simp [work] at hw
  | succ fuel ih =>
    intro q st hw
    cases hq : q.getLast? with
    | none =>
      obtain rfl : q = [] := by simpa using hq
      exact ⟨.refl _, fun _ _ h => nomatch h⟩
    | some it =>
      obtain ⟨ys, rfl⟩ := List.getLast?_eq_some_iff.mp hq
      have hwork : work (ys ++ [it]) = work ys + (1 + nestsList it.ops) := by simp [work]
      have hbump : st.Le { st with nextScope := st.nextScope + 1 } := ⟨fun _ h => h, id⟩
      simp only [procQueue, hq, List.dropLast_concat]
      cases hc : nestingConstraints it.nbPfx it.nbDom with
      | error e =>
        simp only
        obtain ⟨h1, -⟩ := ih ys (St.fail { st with nextScope := st.nextScope + 1 } e) (by omega)
        refine ⟨(hbump.trans (St.le_fail _ e)).trans h1, fun hnone => ?_⟩
        have := h1.err (fail_err _ _)
        rw [hnone] at this
        cases this
      | ok pr =>
        obtain ⟨cp, cd⟩ := pr
        simp only
        have w := procBp_spec it.ops (it.parent ++ [st.nextScope]) (innerDomain it.dom cd)
          (joinPrefix it.pfx cp) false
          (St.noteDomain { st with nextScope := st.nextScope + 1 } cd) ys
        generalize procBp it.ops (it.parent ++ [st.nextScope]) (innerDomain it.dom cd)
          (joinPrefix it.pfx cp) false
          (St.noteDomain { st with nextScope := st.nextScope + 1 } cd) ys = r at w ⊢
        obtain ⟨st₁, q₁⟩ := r
        have hq₁ := w.queue
        simp only at hq₁ ⊢
        obtain ⟨h1, h2⟩ := ih q₁ st₁ (by rw [hq₁, work_append, work_itemsOf]; omega)
        refine ⟨((hbump.trans (St.le_noteDomain _ cd)).trans w.le).trans h1,
          fun hnone it' hit' => ?_⟩
        rcases List.mem_append.mp hit' with hm | hm
        · exact h2 hnone it' (hq₁ ▸ List.mem_append_left _ hm)
        · obtain rfl := List.mem_singleton.mp hm
          intro cp' cd' hc' h g full d hreg
          rw [hc] at hc'
          cases hc'
          exact hasHandler_of_reg w.routes h1
            (fun it hit => h2 hnone it (hq₁ ▸ List.mem_append_right _ hit)) hreg

/-- Every registration reaches the router: if the blueprint walk reports no error, every route of
    every (transitively) nested blueprint is interned as a request handler whose path is the route's
    path behind all nesting prefixes, guarded by the innermost domain guard. -/
theorem processBlueprint_registers {ops : List Op} (hok : (processBlueprint ops).err = none)
    {h : Nat} {g : MGuard} {full : List Char} {d : Option (List Char)} (hreg : Reg ops none none h g full d) :
    ∃ x ∈ handlersOf (processBlueprint ops).comps, x.h = h ∧ x.guard = g ∧ x.path = full ∧ x.dom = d := by
  unfold processBlueprint at hok ⊢
  have w := procBp_spec ops [] none none true {} []
  generalize procBp ops [] none none true {} [] = r at hok w ⊢
  obtain ⟨st0, q0⟩ := r
  obtain rfl : q0 = itemsOf ops [] none none := w.queue
  simp only at hok ⊢
  obtain ⟨h1, h2⟩ := procQueue_spec (nestsList ops + 1) (itemsOf ops [] none none) st0
    (by rw [work_itemsOf]; omega)
  obtain ⟨x, hx, r⟩ := hasHandler_of_reg w.routes h1 (h2 hok) hreg
  exact ⟨x, List.mem_filterMap.mpr ⟨_, hx, rfl⟩, r⟩

end Pxv.Router
