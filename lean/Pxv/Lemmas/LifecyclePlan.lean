import Pxv.Lemmas.Lifecycle
/-! The plan of a pipeline: the reverse walk over the stages read as a recursion, so that every
    recorded component is `mkPlan` of an accumulator one can say something about; the shape of the
    stages `group` makes; `enforce_invariants` read as a partition of the request-scoped nodes. -/
namespace Pxv.Life
open Pxv.Scope

theorem sum_le_one_of {l : List Nat} (h : l.sum ≤ 1) : ∀ x ∈ l, x ≤ 1 := by
  induction l with
  | nil => intro x hx; cases hx
  | cons a as ih =>
    intro x hx
    simp only [List.sum_cons] at h
    rcases List.mem_cons.mp hx with rfl | hx
    · omega
    · exact ih (by omega) x hx

theorem sum_map_le {α : Type} (f g : α → Nat) (l : List α) (h : ∀ a ∈ l, f a ≤ g a) :
    (l.map f).sum ≤ (l.map g).sum := by
  induction l with
  | nil => exact Nat.le_refl _
  | cons a as ih =>
    have := h a List.mem_cons_self
    have := ih fun x hx => h x (List.mem_cons_of_mem _ hx)
    simp only [List.map_cons, List.sum_cons]
    omega

theorem eq_of_sum_le_one {α : Type} (g : α → Nat) (l : List α) (h : (l.map g).sum ≤ 1) :
    ∀ a ∈ l, ∀ b ∈ l, 0 < g a → 0 < g b → a = b := by
  induction l with
  | nil => intro a ha; cases ha
  | cons x xs ih =>
    intro a ha b hb hga hgb
    simp only [List.map_cons, List.sum_cons] at h
    have hz : g x ≠ 0 → ∀ c ∈ xs, g c = 0 := fun hx c hc =>
      List.sum_eq_zero_iff_forall_eq_nat.mp (by omega) _ (List.mem_map_of_mem hc)
    rcases List.mem_cons.mp ha with rfl | ha'
    · rcases List.mem_cons.mp hb with rfl | hb'
      · rfl
      · have := hz (by omega) b hb'
        omega
    · rcases List.mem_cons.mp hb with rfl | hb'
      · have := hz (by omega) a ha'
        omega
      · by_cases hx : g x = 0
        · exact ih (by omega) a ha' b hb' hga hgb
        · have := hz hx a ha'
          omega

theorem eq_of_pairwise {α : Type} {R : α → α → Prop} {l : List α} (h : l.Pairwise R) {i j : Nat} (hi : i < l.length)
    (hj : j < l.length) (hij : ¬ R l[i] l[j]) (hji : ¬ R l[j] l[i]) : i = j := by
  have h' := List.pairwise_iff_getElem.mp h
  rcases Nat.lt_trichotomy i j with hlt | heq | hlt
  · exact absurd (h' i j hi hj hlt) hij
  · exact heq
  · exact absurd (h' j i hj hi hlt) hji

/-- what `stepComp` records for component `c` of stage `k` -/
def mkPlan (env : Env) (ba : List (Nat × Nat)) (k : Nat) (next : Option (List (Nat × Mode))) (c : Comp) : CompPlan :=
  let pre := (ba.filter (fun b => b.2 < k)).map (·.1)
  let extra := if c.isWrapping then next.getD [] else []
  let r := closureOf (env.get c.scope) pre .request env.fuel (c.ins ++ extra)
  ⟨k, c, r.1, r.2.take c.ins.length, zipFields extra (r.2.drop c.ins.length)⟩

theorem foldl_stepComp (env : Env) (ba : List (Nat × Nat)) (k : Nat) (cs : List Comp) (acc : Acc) :
    (cs.foldl (stepComp env ba k) acc).plans = cs.reverse.map (mkPlan env ba k acc.next) ++ acc.plans ∧
    (cs.foldl (stepComp env ba k) acc).next = acc.next ∧
    (cs.foldl (stepComp env ba k) acc).state =
      acc.state ++ cs.flatMap (fun c => (mkPlan env ba k acc.next c).cl.paramTypes) := by
  induction cs generalizing acc with
  | nil => simp
  | cons c rest ih =>
    have hc : (stepComp env ba k acc c).plans = mkPlan env ba k acc.next c :: acc.plans ∧
      (stepComp env ba k acc c).next = acc.next ∧
      (stepComp env ba k acc c).state = acc.state ++ (mkPlan env ba k acc.next c).cl.paramTypes :=
      ⟨rfl, rfl, rfl⟩
    simp [List.foldl_cons, ih, hc]

theorem stepStage_plans (env : Env) (ba : List (Nat × Nat)) (tyOf : Nat → Option Nat) (k : Nat) (acc : Acc)
    (s : StageC) : (stepStage env ba tyOf k acc s).plans = s.order.map (mkPlan env ba k acc.next) ++ acc.plans := by
  have := (foldl_stepComp env ba k s.order.reverse acc).1
  rw [List.reverse_reverse] at this
  unfold stepStage
  split <;> exact this

/-- the reverse walk over the stages, as a recursion from the last stage down -/
def walkDown (env : Env) (ba : List (Nat × Nat)) (tyOf : Nat → Option Nat) : Nat → List StageC → Acc
  | _, [] => {}
  | a, s :: rest => stepStage env ba tyOf a (walkDown env ba tyOf (a + 1) rest) s

theorem stepStages_append (env : Env) (ba : List (Nat × Nat)) (tyOf : Nat → Option Nat)
    (l1 l2 : List (Nat × StageC)) (acc : Acc) :
    stepStages env ba tyOf (l1 ++ l2) acc = stepStages env ba tyOf l2 (stepStages env ba tyOf l1 acc) := by
  induction l1 generalizing acc with
  | nil => rfl
  | cons ks rest ih => exact ih _

theorem plan_comps_eq (env : Env) (tyOf : Nat → Option Nat) (chain : List Comp) (h : Comp) :
    (plan env tyOf chain h).comps =
      (walkDown env (plan env tyOf chain h).builtAt tyOf 0 (group chain [] [] h)).plans := by
  have : ∀ ba (l : List StageC) a,
      stepStages env ba tyOf (indexFrom a l).reverse {} = walkDown env ba tyOf a l := by
    intro ba l
    induction l with
    | nil => intro a; rfl
    | cons s rest ih =>
      intro a
      simp only [indexFrom, List.reverse_cons, stepStages_append, ih, walkDown, stepStages]
  exact congrArg Acc.plans (this _ _ 0)

/-- every (stage index, component), in invocation order of the stages -/
def allComps : Nat → List StageC → List (Nat × Comp)
  | _, [] => []
  | a, s :: rest => s.order.map (fun c => (a, c)) ++ allComps (a + 1) rest

theorem allComps_mem : ∀ (l : List StageC) (a k : Nat) (c : Comp), (k, c) ∈ allComps a l →
    ∃ s, l[k - a]? = some s ∧ a ≤ k ∧ c ∈ s.order := by
  intro l
  induction l with
  | nil => intro a k c h; cases h
  | cons s rest ih =>
    intro a k c h
    simp only [allComps, List.mem_append, List.mem_map, Prod.mk.injEq] at h
    rcases h with ⟨c', hc', rfl, rfl⟩ | h
    · exact ⟨s, by simp, Nat.le_refl _, hc'⟩
    · obtain ⟨s', hs', hle, hc⟩ := ih (a + 1) k c h
      refine ⟨s', ?_, by omega, hc⟩
      rw [show k - a = (k - (a + 1)) + 1 by omega, List.getElem?_cons_succ]
      exact hs'

def keyOf (cp : CompPlan) : Nat × Comp := (cp.stage, cp.comp)

theorem walkDown_keys (env : Env) (ba : List (Nat × Nat)) (tyOf : Nat → Option Nat) : ∀ (l : List StageC) (a : Nat),
    (walkDown env ba tyOf a l).plans.map keyOf = allComps a l := by
  intro l
  induction l with
  | nil => intro a; rfl
  | cons s rest ih =>
    intro a
    simp only [walkDown, stepStage_plans, List.map_append, List.map_map, allComps, ih]
    rfl

/-- `I a acc`: an invariant of the accumulator with which the walk arrives at stage `a` -/
theorem walkDown_inv (env : Env) (ba : List (Nat × Nat)) (tyOf : Nat → Option Nat) (I : Nat → Acc → Prop)
    (h0 : ∀ a, I a {}) : ∀ (l : List StageC) (a : Nat),
      (∀ s ∈ l, ∀ a acc, I (a + 1) acc → I a (stepStage env ba tyOf (a + 1) acc s)) →
      I a (walkDown env ba tyOf (a + 1) l) := by
  intro l
  induction l with
  | nil => exact fun a _ => h0 a
  | cons s rest ih =>
    intro a hl
    exact hl s List.mem_cons_self _ _ (ih (a + 1) fun s' hs' => hl s' (List.mem_cons_of_mem _ hs'))

/-- …and it holds of the accumulator every component was planned from -/
theorem walkDown_mem (env : Env) (ba : List (Nat × Nat)) (tyOf : Nat → Option Nat) (I : Nat → Acc → Prop)
    (h0 : ∀ a, I a {}) : ∀ (l : List StageC) (a : Nat),
      (∀ s ∈ l, ∀ a acc, I (a + 1) acc → I a (stepStage env ba tyOf (a + 1) acc s)) →
      ∀ cp ∈ (walkDown env ba tyOf a l).plans, ∃ acc, I cp.stage acc ∧ cp = mkPlan env ba cp.stage acc.next cp.comp := by
  intro l
  induction l with
  | nil => exact fun _ _ _ hcp => nomatch hcp
  | cons s rest ih =>
    intro a hl cp hcp
    have hrest := fun s' hs' => hl s' (List.mem_cons_of_mem _ hs')
    simp only [walkDown, stepStage_plans, List.mem_append, List.mem_map] at hcp
    rcases hcp with ⟨c, _, rfl⟩ | hcp
    · exact ⟨_, walkDown_inv env ba tyOf I h0 rest a hrest, rfl⟩
    · exact ih (a + 1) hrest cp hcp

theorem plan_keys (env : Env) (tyOf : Nat → Option Nat) (chain : List Comp) (h : Comp) :
    (plan env tyOf chain h).comps.map keyOf = allComps 0 (group chain [] [] h) := by
  rw [plan_comps_eq, walkDown_keys]

theorem plan_mem (env : Env) (tyOf : Nat → Option Nat) (chain : List Comp) (h : Comp) :
    ∀ cp ∈ (plan env tyOf chain h).comps, (cp.stage, cp.comp) ∈ allComps 0 (group chain [] [] h) ∧
      ∃ next, cp = mkPlan env (plan env tyOf chain h).builtAt cp.stage next cp.comp := by
  intro cp hcp
  refine ⟨plan_keys env tyOf chain h ▸ List.mem_map_of_mem (f := keyOf) hcp, ?_⟩
  rw [plan_comps_eq] at hcp
  obtain ⟨acc, _, h⟩ := walkDown_mem env _ tyOf (fun _ _ => True) (fun _ => trivial) _ 0
    (fun _ _ _ _ _ => trivial) cp hcp
  exact ⟨_, h⟩

theorem group_count (a : Comp) : ∀ (ms pres posts : List Comp) (h : Comp),
    List.count a ((group ms pres posts h).flatMap StageC.order) =
      List.count a pres + List.count a posts + List.count a ms + List.count a [h] := by
  intro ms
  induction ms with
  | nil =>
    intro pres posts h
    simp only [group, List.flatMap_cons, List.flatMap_nil, List.append_nil, StageC.order,
      List.count_append, List.count_nil]
    omega
  | cons m ms ih =>
    intro pres posts h
    simp only [group]
    -- `m` joins `pres`, joins `posts` or closes a stage: by `ih` the same sum each time
    split <;>
      simp only [List.flatMap_cons, StageC.order, ih, List.count_append, List.count_cons,
        List.count_nil] <;>
      omega

theorem group_mem {chain : List Comp} {h : Comp} {s : StageC} (hs : s ∈ group chain [] [] h) {c : Comp}
    (hc : c ∈ s.order) : c ∈ chain ∨ c = h := by
  have := List.count_pos_iff.mpr (List.mem_flatMap.mpr ⟨s, hs, hc⟩)
  rw [group_count] at this
  by_cases hm : c ∈ chain
  · exact Or.inl hm
  · by_cases hh : c = h
    · exact Or.inr hh
    · simp [List.count_eq_zero.mpr hm, Ne.symm hh] at this

theorem allComps_snd : ∀ (l : List StageC) (a : Nat), (allComps a l).map (·.2) = l.flatMap StageC.order := by
  intro l
  induction l with
  | nil => intro a; rfl
  | cons s rest ih =>
    intro a
    simp [allComps, ih, Function.comp_def]

theorem group_side : ∀ (ms pres posts : List Comp) (h : Comp),
    (∀ c ∈ pres, c.kind = .pre) → (∀ c ∈ posts, c.kind = .post) →
    ∀ s ∈ group ms pres posts h, (∀ c ∈ s.pres, c.kind = .pre) ∧ (∀ c ∈ s.posts, c.kind = .post) := by
  intro ms
  induction ms with
  | nil =>
    intro pres posts h hp hq s hs
    cases List.mem_singleton.mp hs
    exact ⟨hp, hq⟩
  | cons m ms ih =>
    intro pres posts h hp hq s hs
    have snoc : ∀ {l : List Comp} {k : CKind}, (∀ c ∈ l, c.kind = k) → m.kind = k →
        ∀ c ∈ l ++ [m], c.kind = k := by
      intro l k hl hm c hc
      rcases List.mem_append.mp hc with hc | hc
      · exact hl c hc
      · cases List.mem_singleton.mp hc
        exact hm
    simp only [group] at hs
    split at hs
    · rename_i hk
      exact ih _ _ h (snoc hp hk) hq s hs
    · rename_i hk
      exact ih _ _ h hp (snoc hq hk) s hs
    · rcases List.mem_cons.mp hs with rfl | hs
      · exact ⟨hp, hq⟩
      · exact ih [] [] h (fun _ hc => nomatch hc) (fun _ hc => nomatch hc) s hs

/-- shape of the stages of a pipeline (↔ the assertions of step 1c): the components are pairwise different, stage 0
    holds wrapping middlewares only (the synthetic `wrap_noop`), pre- and post-processors are not wrapping -/
structure StagesOk (l : List StageC) : Prop where
  nodup : (allComps 0 l).Nodup
  first : ∀ c, (0, c) ∈ allComps 0 l → c.isWrapping = true
  side : ∀ s ∈ l, (∀ c ∈ s.pres, c.isWrapping = false) ∧ (∀ c ∈ s.posts, c.isWrapping = false)

/-- the pipeline pavexc builds — the synthetic wrapping middleware first, then the chain, then the handler, all
    different components — has well-shaped stages -/
theorem stagesOk_group (c0 : Comp) (ms : List Comp) (h : Comp) (hw : c0.isWrapping = true)
    (hnd : (c0 :: ms ++ [h]).Nodup) : StagesOk (group (c0 :: ms) [] [] h) := by
  have hshape : group (c0 :: ms) [] [] h = ⟨[], c0, []⟩ :: group ms [] [] h := by
    have hk : c0.kind = .noop ∨ c0.kind = .wrap := by simpa [Comp.isWrapping] using hw
    simp only [group]
    rcases hk with hk | hk <;> rw [hk]
  refine ⟨?_, fun c hc => ?_, fun s hs => ?_⟩
  · refine List.Pairwise.of_map (S := (· ≠ ·)) (·.2) (fun _ _ hab e => hab (e ▸ rfl)) ?_
    rw [allComps_snd]
    refine (List.Perm.nodup_iff (List.perm_iff_count.mpr fun a => ?_)).mpr hnd
    rw [group_count]
    simp only [List.count_nil, List.count_append, List.cons_append, List.count_cons]
    omega
  · rw [hshape] at hc
    rcases List.mem_append.mp hc with hc | hc
    · simp only [StageC.order, List.append_nil, List.nil_append, List.map_cons, List.map_nil,
        List.mem_singleton, Prod.mk.injEq, true_and] at hc
      exact hc ▸ hw
    · obtain ⟨_, _, hle, _⟩ := allComps_mem _ _ _ _ hc
      omega
  · obtain ⟨hpre, hpost⟩ :=
      group_side (c0 :: ms) [] [] h (fun _ hc => nomatch hc) (fun _ hc => nomatch hc) s hs
    constructor
    · intro c hc
      rw [Comp.isWrapping, hpre c hc]
      rfl
    · intro c hc
      rw [Comp.isWrapping, hpost c hc]
      rfl

theorem wrapping_unique {l : List StageC} (hok : StagesOk l) {k : Nat} {c1 c2 : Comp}
    (h1 : (k, c1) ∈ allComps 0 l) (h2 : (k, c2) ∈ allComps 0 l) (w1 : c1.isWrapping = true) (w2 : c2.isWrapping = true) :
    c1 = c2 := by
  obtain ⟨s1, hs1, _, hc1⟩ := allComps_mem l 0 k c1 h1
  obtain ⟨s2, hs2, _, hc2⟩ := allComps_mem l 0 k c2 h2
  rw [hs1] at hs2
  cases hs2
  have hside := hok.side s1 (List.mem_of_getElem? hs1)
  have mid_of : ∀ c, c ∈ s1.order → c.isWrapping = true → c = s1.mid := by
    intro c hc hw
    simp only [StageC.order, List.mem_append, List.mem_singleton] at hc
    rcases hc with (hc | hc) | hc
    · rw [hside.1 c hc] at hw; cases hw
    · exact hc
    · rw [hside.2 c hc] at hw; cases hw
  rw [mid_of c1 hc1 w1, mid_of c2 hc2 w2]

/-- all components of the pipeline resolve types the same way: no blueprint between them overrides a
    constructor that another one of them sees -/
def Uniform (env : Env) (lk : Nat → Option CDef) (chain : List Comp) (h : Comp) : Prop :=
  ∀ c, c ∈ chain ∨ c = h → env.get c.scope = lk

def UniformStages (env : Env) (lk : Nat → Option CDef) (l : List StageC) : Prop :=
  ∀ s ∈ l, ∀ c ∈ s.order, env.get c.scope = lk

theorem uniformStages_of_uniform {env : Env} {lk : Nat → Option CDef} {chain : List Comp} {h : Comp}
    (hun : Uniform env lk chain h) : UniformStages env lk (group chain [] [] h) :=
  fun _ hs c hc => hun c (group_mem hs hc)

theorem UniformStages.get {env : Env} {lk : Nat → Option CDef} {l : List StageC} (hu : UniformStages env lk l)
    {a k : Nat} {c : Comp} (h : (k, c) ∈ allComps a l) : env.get c.scope = lk := by
  obtain ⟨s, hs, _, hc⟩ := allComps_mem l a k c h
  exact hu s (List.mem_of_getElem? hs) c hc

/-- node `o` of the pipeline is a `Compute` node of the request-scoped constructor `x` -/
def Plan.isNodeOf (p : Plan) (o : Origin) (x : Nat) : Prop :=
  ∃ c, p.ctorAt o = some c ∧ c.uid = x ∧ c.life = .request

/-- what executes for one request: per component of the pipeline, some of the nodes of its closure -/
structure Run (p : Plan) where
  exec : List (CompPlan × List Node)
  comps : exec.map (·.1) = p.comps
  sub : ∀ e ∈ exec, e.2.Sublist e.1.cl.nodes

def rsCount (x : Nat) (nodes : List Node) : Nat :=
  ((nodes.filter (fun n => n.ctor.life == .request)).map (·.ctor.uid) |>.filter (· == x)).length

/-- how often the request-scoped constructor `x` runs in a run -/
def Run.constructions {p : Plan} (r : Run p) (x : Nat) : Nat :=
  (r.exec.map (fun e => rsCount x e.2)).sum

theorem count_eq (p : Plan) (x : Nat) : p.count x = (p.comps.map (fun c => rsCount x c.cl.nodes)).sum := rfl

theorem constructions_le_count {p : Plan} (r : Run p) (x : Nat) : r.constructions x ≤ p.count x := by
  rw [count_eq, ← r.comps, List.map_map]
  exact sum_map_le _ _ _ fun e he => ((((r.sub e he).filter _).map _).filter _).length_le

theorem count_eq_count (p : Plan) (x : Nat) : p.count x = (p.comps.flatMap (fun c => c.cl.rs)).count x := by
  rw [List.count_flatMap]
  simp only [Plan.count, List.count_eq_length_filter, Function.comp_def]

/-- the guard as a partition: `enforce_invariants` passes exactly when the request-scoped nodes of all the closures of
    the pipeline belong to pairwise different constructors -/
theorem invariantsOk_iff (p : Plan) : p.invariantsOk = true ↔ (p.comps.flatMap (fun c => c.cl.rs)).Nodup := by
  simp only [Plan.invariantsOk, List.all_eq_true, decide_eq_true_eq, count_eq_count,
    List.nodup_iff_count]
  -- the guard counts the constructors that occur; one that does not occur is counted zero times
  refine ⟨fun h x => ?_, fun h x _ => h x⟩
  by_cases hx : x ∈ p.comps.flatMap (fun c => c.cl.rs)
  · exact h x hx
  · rw [List.count_eq_zero.mpr hx]
    exact Nat.zero_le _

/-- node `i` of the closure of component `a` is a node of the request-scoped constructor `x` -/
structure Plan.NodeAt (p : Plan) (x a i : Nat) : Prop where
  comp : a < p.comps.length
  node : i < p.comps[a].cl.nodes.length
  life : p.comps[a].cl.nodes[i].ctor.life = .request
  uid : p.comps[a].cl.nodes[i].ctor.uid = x

theorem Plan.NodeAt.mem {p : Plan} {x a i : Nat} (h : p.NodeAt x a i) :
    x ∈ (p.comps[a]'h.comp).cl.rs :=
  mem_rs.mpr ⟨_, List.getElem_mem h.node, h.life, h.uid⟩

theorem Plan.isNodeOf.nodeAt {p : Plan} {o : Origin} {x : Nat} (h : p.isNodeOf o x) :
    ∃ a i, o = .node a i ∧ p.NodeAt x a i := by
  obtain ⟨c, hc, hu, hl⟩ := h
  cases o with
  | app ty => cases hc
  | stuck => cases hc
  | node a i =>
    -- `ctorAt` looks up the component, then the node
    obtain ⟨cp, hcp, n, hn, rfl⟩ :
        ∃ cp, p.comps[a]? = some cp ∧ ∃ n, cp.cl.nodes[i]? = some n ∧ n.ctor = c := by
      simpa [Plan.ctorAt, Option.bind_eq_some_iff] using hc
    obtain ⟨ha, rfl⟩ := List.getElem?_eq_some_iff.mp hcp
    obtain ⟨hi, rfl⟩ := List.getElem?_eq_some_iff.mp hn
    exact ⟨a, i, rfl, { comp := ha, node := hi, life := hl, uid := hu }⟩

theorem node_unique (p : Plan) (hok : p.invariantsOk = true) {x : Nat} {o1 o2 : Origin} (h1 : p.isNodeOf o1 x)
    (h2 : p.isNodeOf o2 x) : o1 = o2 := by
  obtain ⟨hcl, hcomps⟩ := List.pairwise_flatMap.mp ((invariantsOk_iff p).mp hok)
  obtain ⟨a, i, rfl, na⟩ := h1.nodeAt
  obtain ⟨b, j, rfl, nb⟩ := h2.nodeAt
  -- different components have no request-scoped constructor in common
  have hab : a = b := eq_of_pairwise hcomps na.comp nb.comp
    (fun r => r x na.mem x nb.mem rfl) (fun r => r x nb.mem x na.mem rfl)
  subst hab
  -- same closure: de-duplication inside one call graph
  have hdedup := List.pairwise_filter.mp (List.pairwise_map.mp (hcl _ (List.getElem_mem na.comp)))
  have hij : i = j := eq_of_pairwise hdedup na.node nb.node
    (fun r => r (beq_iff_eq.mpr na.life) (beq_iff_eq.mpr nb.life) (na.uid.trans nb.uid.symm))
    (fun r => r (beq_iff_eq.mpr nb.life) (beq_iff_eq.mpr na.life) (nb.uid.trans na.uid.symm))
  rw [hij]

end Pxv.Life
