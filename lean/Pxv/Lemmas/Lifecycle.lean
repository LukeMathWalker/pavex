import Pxv.Model.Lifecycle
/-! The call graph of one closure. A traversal step (`resolve`) is taken apart once, case by case; from
    the cases follows what the traversal guarantees: one node per de-duplicated constructor, right
    answers, transient nodes referred to once, request-scoped nodes for exactly what the inputs reach. -/
namespace Pxv.Life
open Pxv.Scope

@[simp] theorem foldRes_cons_fst (r : Closure → Nat × Mode → Closure × Src) (cl : Closure) (i : Nat × Mode)
    (l : List (Nat × Mode)) : (foldRes r cl (i :: l)).1 = (foldRes r (r cl i).1 l).1 := rfl

@[simp] theorem foldRes_cons_snd (r : Closure → Nat × Mode → Closure × Src) (cl : Closure) (i : Nat × Mode)
    (l : List (Nat × Mode)) : (foldRes r cl (i :: l)).2 = (r cl i).2 :: (foldRes r (r cl i).1 l).2 := rfl

theorem foldRes_length (r : Closure → Nat × Mode → Closure × Src) :
    ∀ l cl, (foldRes r cl l).2.length = l.length := by
  intro l
  induction l with
  | nil => intro cl; rfl
  | cons i rest ih => intro cl; simp only [foldRes, List.length_cons, ih]

theorem foldRes_preserves (P : Closure → Prop) (r : Closure → Nat × Mode → Closure × Src) (l : List (Nat × Mode))
    (hr : ∀ i ∈ l, ∀ cl, P cl → P (r cl i).1) : ∀ cl, P cl → P (foldRes r cl l).1 := by
  induction l with
  | nil => exact fun _ h => h
  | cons i rest ih =>
    intro cl h
    exact ih (fun j hj => hr j (List.mem_cons_of_mem _ hj)) _ (hr i List.mem_cons_self cl h)

/-- the types that become input parameters: no constructor, a constructor of the long-lived lifecycle other than `once`,
    or a prebuilt one -/
def ParamTy (lk : Nat → Option CDef) (pre : List Nat) (once : Life) (t : Nat) : Prop :=
  ∀ d, lk t = some d → d.life ≠ .transient ∧ (d.life = once → pre.contains d.uid = true)

/-- the middle case of a traversal step: the constructor `c` designated for `ty` is de-duplicated
    (long-lived, of lifecycle `once`, not prebuilt) and has node `i` already in `cl'`, which is the closure
    the step started from or that closure after the inputs of `c` were resolved -/
structure Found (lk : Nat → Option CDef) (pre : List Nat) (once : Life) (f : Nat) (cl : Closure) (ty : Nat)
    (c : CDef) (i : Nat) (cl' : Closure) : Prop where
  lookup : lk ty = some c
  longLived : c.life ≠ .transient
  life : c.life = once
  notPre : pre.contains c.uid = false
  closure : cl' = cl ∨ cl' = (foldRes (resolve lk pre once f) cl c.ins).1
  index : cl'.nodes.findIdx? (fun n => n.ctor.uid == c.uid) = some i

/-- The cases of one traversal step with fuel left: the type becomes a parameter; or its constructor is
    de-duplicated and has a node already, before or (only with cyclic dependencies) after its inputs were resolved;
    or the inputs are resolved and a node is added. -/
theorem resolve_succ {lk : Nat → Option CDef} {pre : List Nat} {once : Life} {f : Nat} {cl : Closure} {ty : Nat}
    {m : Mode} (M : Closure × Src → Prop)
    (param : ParamTy lk pre once ty → M (cl.addParam ty m, .param ty))
    (found : ∀ c i cl', Found lk pre once f cl ty c i cl' → M (cl', .built i))
    (push : ∀ c r, lk ty = some c → r = foldRes (resolve lk pre once f) cl c.ins →
      c.life = .transient ∨ (c.life = once ∧ pre.contains c.uid = false ∧
        r.1.nodes.findIdx? (fun n => n.ctor.uid == c.uid) = none) → M (r.1.push c r.2)) :
    M (resolve lk pre once (f + 1) cl (ty, m)) := by
  simp only [resolve]
  split
  · exact param (by simp [ParamTy, *])
  · rename_i c hl
    split
    · rename_i ht
      exact push c _ hl rfl (Or.inl (by simpa using ht))
    · rename_i ht
      have ht : c.life ≠ .transient := by simpa using ht
      split
      · rename_i hp
        refine param fun c' hc' => ?_
        rw [hl] at hc'; cases hc'
        simp only [Bool.or_eq_true, bne_iff_ne, ne_eq] at hp
        exact ⟨ht, fun h => hp.resolve_left (fun h' => h' h)⟩
      · rename_i hp
        simp only [Bool.or_eq_true, bne_iff_ne, ne_eq, not_or, Decidable.not_not,
          Bool.not_eq_true] at hp
        obtain ⟨hlife, hpre⟩ := hp
        split
        · rename_i i hf
          exact found c i cl
            { lookup := hl, longLived := ht, life := hlife, notPre := hpre
              closure := Or.inl rfl, index := hf }
        · unfold Closure.pushOnce
          split
          · rename_i i hf
            exact found c i _
              { lookup := hl, longLived := ht, life := hlife, notPre := hpre
                closure := Or.inr rfl, index := hf }
          · rename_i hf
            exact push c _ hl rfl (Or.inr ⟨hlife, hpre, hf⟩)

/-- **induction principle for `resolve`**: a property of closures that survives (a) a new parameter edge
    and (b) a new node — for a transient constructor, or for a constructor of the de-duplicated lifecycle
    that is not prebuilt and has no node yet — survives the whole traversal. -/
theorem resolve_preserves (P : Closure → Prop) (lk : Nat → Option CDef) (pre : List Nat) (once : Life)
    (hparam : ∀ cl ty m, P cl → P (cl.addParam ty m))
    (hpush : ∀ cl c t srcs, P cl → lk t = some c → c.life = .transient ∨ (c.life = once ∧
      pre.contains c.uid = false ∧ cl.nodes.findIdx? (fun n => n.ctor.uid == c.uid) = none) → P (cl.push c srcs).1) :
    ∀ f cl i, P cl → P (resolve lk pre once f cl i).1 := by
  intro f
  induction f with
  | zero => exact fun cl i h => hparam _ _ _ h
  | succ f ih =>
    intro cl (ty, m) h
    have hfold := fun l => foldRes_preserves P _ l (fun i _ cl => ih cl i) cl h
    refine resolve_succ (fun out => P out.1) (fun _ => hparam _ _ _ h) ?_ ?_
    · intro c i cl' hf
      rcases hf.closure with rfl | rfl
      · exact h
      · exact hfold _
    · rintro c r hl rfl ho
      exact hpush _ _ _ _ (hfold _) hl ho

theorem closureOf_preserves (P : Closure → Prop) (lk : Nat → Option CDef) (pre : List Nat) (once : Life)
    (hparam : ∀ cl ty m, P cl → P (cl.addParam ty m))
    (hpush : ∀ cl c t srcs, P cl → lk t = some c → c.life = .transient ∨ (c.life = once ∧
      pre.contains c.uid = false ∧ cl.nodes.findIdx? (fun n => n.ctor.uid == c.uid) = none) → P (cl.push c srcs).1)
    (h0 : P {}) (fuel : Nat) (ins : List (Nat × Mode)) : P (closureOf lk pre once fuel ins).1 :=
  foldRes_preserves P _ ins (fun i _ cl => resolve_preserves P lk pre once hparam hpush fuel cl i)
    {} h0

theorem resolve_prefix (lk : Nat → Option CDef) (pre : List Nat) (once : Life) (f : Nat) (cl : Closure)
    (i : Nat × Mode) : cl.nodes <+: (resolve lk pre once f cl i).1.nodes :=
  resolve_preserves (fun cl' => cl.nodes <+: cl'.nodes) lk pre once (fun _ _ _ h => h)
    (fun _ _ _ _ h _ _ => h.trans (List.prefix_append _ _)) f cl i (List.prefix_refl _)

theorem foldRes_prefix (lk : Nat → Option CDef) (pre : List Nat) (once : Life) (f : Nat) (cl : Closure)
    (l : List (Nat × Mode)) : cl.nodes <+: (foldRes (resolve lk pre once f) cl l).1.nodes :=
  foldRes_preserves (fun cl' => cl.nodes <+: cl'.nodes) _ l
    (fun i _ cl' h => h.trans (resolve_prefix lk pre once f cl' i)) cl (List.prefix_refl _)

def Closure.idsOf (cl : Closure) (l : Life) : List Nat :=
  (cl.nodes.filter (fun n => n.ctor.life == l)).map (·.ctor.uid)

theorem rs_eq_idsOf (cl : Closure) : cl.rs = cl.idsOf .request := rfl

theorem idsOf_addParam (cl : Closure) (ty : Nat) (m : Mode) (l : Life) :
    (cl.addParam ty m).idsOf l = cl.idsOf l := rfl

theorem idsOf_push (cl : Closure) (c : CDef) (srcs : List Src) (l : Life) :
    (cl.push c srcs).1.idsOf l = cl.idsOf l ++ (if c.life = l then [c.uid] else []) := by
  by_cases h : c.life = l <;> simp [Closure.push, Closure.idsOf, List.filter_append, h]

theorem closure_dedup (lk : Nat → Option CDef) (pre : List Nat) (once : Life) (hne : once ≠ .transient)
    (fuel : Nat) (ins : List (Nat × Mode)) :
    ((closureOf lk pre once fuel ins).1.idsOf once).Nodup := by
  refine closureOf_preserves (fun cl => (cl.idsOf once).Nodup) lk pre once (fun _ _ _ h => h) ?_
    List.nodup_nil fuel ins
  intro cl c t srcs h _ ho
  rw [idsOf_push]
  rcases ho with ht | ⟨hl, _, hf⟩
  · -- a transient node does not count
    rw [if_neg (by rw [ht]; exact hne.symm), List.append_nil]
    exact h
  · -- a node of lifecycle `once` is added only when no node has its id
    rw [if_pos hl, List.nodup_append]
    refine ⟨h, by simp, fun a ha b hb => ?_⟩
    cases List.mem_singleton.mp hb
    obtain ⟨n, hn, rfl⟩ := List.mem_map.mp ha
    simpa using List.findIdx?_eq_none_iff.mp hf n (List.mem_filter.mp hn).1

theorem mem_rs {cl : Closure} {y : Nat} : y ∈ cl.rs ↔ ∃ n ∈ cl.nodes, n.ctor.life = .request ∧ n.ctor.uid = y := by
  simp [Closure.rs, and_assoc]

/-- constructor ids identify constructors (as component ids do in pavexc) -/
def UidInj (lk : Nat → Option CDef) : Prop :=
  ∀ t1 t2 c1 c2, lk t1 = some c1 → lk t2 = some c2 → c1.uid = c2.uid → c1 = c2

theorem eq_of_nodup_map {α β : Type} {f : α → β} {l : List α} (h : (l.map f).Nodup) :
    ∀ a ∈ l, ∀ b ∈ l, f a = f b → a = b :=
  have h' := List.pairwise_map.mp h
  List.Pairwise.forall_of_forall_of_flip (fun _ _ _ => rfl) (h'.imp fun h e => absurd e h)
    (h'.imp fun h e => absurd e.symm h)

/-- constructors kept in a table with pairwise different ids (as pavexc's component ids are) give a
    lookup that satisfies `UidInj` -/
theorem uidInj_of_table (tab : List CDef) (h : (tab.map (·.uid)).Nodup) :
    UidInj (fun t => tab.find? (fun d => d.ty == t)) :=
  fun _ _ c1 c2 h1 h2 =>
    eq_of_nodup_map h c1 (List.mem_of_find?_eq_some h1) c2 (List.mem_of_find?_eq_some h2)

/-- every node was made for a constructor the lookup designates for some type -/
def Known (lk : Nat → Option CDef) (cl : Closure) : Prop := ∀ n ∈ cl.nodes, ∃ t, lk t = some n.ctor

theorem resolve_known {lk : Nat → Option CDef} (pre : List Nat) (once : Life) (f : Nat) {cl : Closure}
    (i : Nat × Mode) (h : Known lk cl) : Known lk (resolve lk pre once f cl i).1 := by
  refine resolve_preserves (Known lk) lk pre once (fun _ _ _ h => h) ?_ f cl i h
  intro cl c t srcs h hl _ n hn
  rcases List.mem_append.mp hn with hn | hn
  · exact h n hn
  · cases List.mem_singleton.mp hn
    exact ⟨t, hl⟩

theorem foldRes_known {lk : Nat → Option CDef} (pre : List Nat) (once : Life) (f : Nat) {cl : Closure}
    (l : List (Nat × Mode)) (h : Known lk cl) : Known lk (foldRes (resolve lk pre once f) cl l).1 :=
  foldRes_preserves (Known lk) _ l (fun i _ _ h => resolve_known pre once f i h) cl h

theorem found_ctor {lk : Nat → Option CDef} (hu : UidInj lk) {cl : Closure} (hk : Known lk cl) {c : CDef} {t i : Nat}
    (hc : lk t = some c) (hf : cl.nodes.findIdx? (fun n => n.ctor.uid == c.uid) = some i) :
    ∃ n, cl.nodes[i]? = some n ∧ n.ctor = c := by
  obtain ⟨hi, hp, _⟩ := List.findIdx?_eq_some_iff_getElem.mp hf
  obtain ⟨t', ht'⟩ := hk _ (List.getElem_mem hi)
  exact ⟨_, List.getElem?_eq_getElem hi, hu t' t _ _ ht' hc (by simpa using hp)⟩

/-- the answer `s` the traversal gave for an input of type `ty` is right: a node of the constructor
    `lk` designates for `ty`, or the parameter of that very type -/
def Ans (lk : Nat → Option CDef) (cl : Closure) (ty : Nat) (s : Src) : Prop :=
  match s with
  | .built i => ∃ n, cl.nodes[i]? = some n ∧ lk ty = some n.ctor
  | .param t => t = ty

theorem ans_mono {lk : Nat → Option CDef} {cl cl' : Closure} (h : cl.nodes <+: cl'.nodes)
    {ty : Nat} {s : Src} (ha : Ans lk cl ty s) : Ans lk cl' ty s := by
  cases s with
  | param t => exact ha
  | built i =>
    obtain ⟨n, hn1, hn2⟩ := ha
    obtain ⟨hi, rfl⟩ := List.getElem?_eq_some_iff.mp hn1
    exact ⟨_, List.prefix_iff_getElem?.mp h i hi, hn2⟩

theorem resolve_ans (lk : Nat → Option CDef) (hu : UidInj lk) (pre : List Nat) (once : Life) (f : Nat)
    (cl : Closure) (ty : Nat) (m : Mode) (hk : Known lk cl) :
    Ans lk (resolve lk pre once f cl (ty, m)).1 ty (resolve lk pre once f cl (ty, m)).2 := by
  cases f with
  | zero => rfl
  | succ f =>
    refine resolve_succ (fun out => Ans lk out.1 ty out.2) (fun _ => rfl) ?_ ?_
    · intro c i cl' hf
      have hk' : Known lk cl' := by
        rcases hf.closure with rfl | rfl
        · exact hk
        · exact foldRes_known pre once f _ hk
      obtain ⟨n, hn, rfl⟩ := found_ctor hu hk' hf.lookup hf.index
      exact ⟨n, hn, hf.lookup⟩
    · rintro c r hl rfl -
      exact ⟨_, List.getElem?_concat_length, hl⟩

theorem foldRes_ans (lk : Nat → Option CDef) (hu : UidInj lk) (pre : List Nat) (once : Life) (f : Nat) :
    ∀ (l : List (Nat × Mode)) cl, Known lk cl → ∀ (j : Nat) (inp : Nat × Mode) (s : Src), l[j]? = some inp →
      (foldRes (resolve lk pre once f) cl l).2[j]? = some s →
      Ans lk (foldRes (resolve lk pre once f) cl l).1 inp.1 s := by
  intro l
  induction l with
  | nil => intro cl _ j inp s hj; cases hj
  | cons i rest ih =>
    intro cl hk j inp s hj hs
    cases j with
    | zero =>
      simp only [List.getElem?_cons_zero, foldRes_cons_snd, Option.some.injEq] at hj hs
      subst hj hs
      exact ans_mono (foldRes_prefix lk pre once f _ rest)
        (resolve_ans lk hu pre once f cl i.1 i.2 hk)
    | succ j =>
      simp only [List.getElem?_cons_succ, foldRes_cons_snd] at hj hs
      exact ih _ (resolve_known pre once f i hk) j inp s hj hs

/-- all the sources the nodes of a closure take their inputs from -/
def Closure.inner (cl : Closure) : List Src := cl.nodes.flatMap (·.ins)

def Closure.transientAt (cl : Closure) (i : Nat) : Prop :=
  ∃ n, cl.nodes[i]? = some n ∧ n.ctor.life = .transient

/-- references to node `i` -/
def refs (i : Nat) (l : List Src) : Nat := l.count (.built i)

/-- the invariant of the traversal as far as references go; `pend` are the answers handed out so far that are not yet
    inputs of a node: no reference is to a node that does not exist yet, and a transient node is referred to at most once -/
structure Refs (cl : Closure) (pend : List Src) : Prop where
  ws : ∀ j, cl.nodes.length ≤ j → refs j (cl.inner ++ pend) = 0
  once : ∀ i, cl.transientAt i → refs i (cl.inner ++ pend) ≤ 1

theorem Refs.answer {cl : Closure} {pend : List Src} (h : Refs cl pend) (s : Src)
    (hs : ∀ j, s = .built j → j < cl.nodes.length ∧ ¬ cl.transientAt j) : Refs cl (pend ++ [s]) := by
  have key : ∀ i, s ≠ .built i →
      refs i (cl.inner ++ (pend ++ [s])) = refs i (cl.inner ++ pend) := by
    intro i hne
    simp [refs, List.count_append, hne]
  constructor
  · intro j hj
    rw [key j fun e => Nat.not_lt.mpr hj (hs j e).1]
    exact h.ws j hj
  · intro i hi
    rw [key i fun e => (hs i e).2 hi]
    exact h.once i hi

/-- `addParam` leaves the nodes as they are, and `Refs` speaks of the nodes only -/
theorem Refs.addParam {cl : Closure} {pend : List Src} (h : Refs cl pend) (ty : Nat) (m : Mode) :
    Refs (cl.addParam ty m) pend :=
  ⟨h.ws, h.once⟩

theorem Refs.param {cl : Closure} {pend : List Src} (h : Refs cl pend) (ty : Nat) (m : Mode) :
    Refs (cl.addParam ty m) (pend ++ [.param ty]) :=
  (h.addParam ty m).answer (.param ty) (fun _ hj => nomatch hj)

theorem Refs.drop {cl : Closure} {pend q : List Src} (h : Refs cl (pend ++ q)) : Refs cl pend := by
  have key : ∀ i, refs i (cl.inner ++ pend) ≤ refs i (cl.inner ++ (pend ++ q)) := by
    intro i
    simp only [refs, List.count_append]
    omega
  constructor
  · intro j hj
    have hle := key j
    rw [h.ws j hj] at hle
    exact Nat.le_zero.mp hle
  · exact fun i hi => Nat.le_trans (key i) (h.once i hi)

theorem Refs.push {cl : Closure} {pend srcs : List Src} (h : Refs cl (pend ++ srcs)) (c : CDef) :
    Refs (cl.push c srcs).1 (pend ++ [(cl.push c srcs).2]) := by
  have hin : (cl.push c srcs).1.inner = cl.inner ++ srcs := by simp [Closure.push, Closure.inner]
  -- up to the order, the references are the old ones and one to the new node, which had none
  have hrefs : ∀ i, refs i ((cl.push c srcs).1.inner ++ (pend ++ [(cl.push c srcs).2])) =
      refs i (cl.inner ++ (pend ++ srcs)) + if cl.nodes.length = i then 1 else 0 := by
    intro i
    rw [hin]
    simp only [refs, Closure.push, List.count_append, List.count_cons, List.count_nil, beq_iff_eq,
      Src.built.injEq]
    omega
  have hlen : (cl.push c srcs).1.nodes.length = cl.nodes.length + 1 := List.length_append
  constructor
  · intro j hj
    rw [hrefs, if_neg (by omega), h.ws j (by omega)]
  · intro i ⟨n, hn, ht⟩
    have hi := (List.getElem?_eq_some_iff.mp hn).1
    rw [hrefs]
    by_cases hi' : cl.nodes.length = i
    · rw [if_pos hi', h.ws i (by omega)]
      exact Nat.le_refl _
    · rw [if_neg hi']
      exact h.once i ⟨n, by rwa [Closure.push, List.getElem?_append_left (by omega)] at hn, ht⟩

theorem foldRes_refs {lk : Nat → Option CDef} {pre : List Nat} {once : Life} {f : Nat}
    (ih : ∀ cl i pend, Known lk cl → Refs cl pend →
      Refs (resolve lk pre once f cl i).1 (pend ++ [(resolve lk pre once f cl i).2])) :
    ∀ l cl pend, Known lk cl → Refs cl pend →
      Refs (foldRes (resolve lk pre once f) cl l).1 (pend ++ (foldRes (resolve lk pre once f) cl l).2) := by
  intro l
  induction l with
  | nil =>
    intro cl pend _ h
    simpa [foldRes] using h
  | cons i rest ih2 =>
    intro cl pend hk h
    have := ih2 _ _ (resolve_known pre once f i hk) (ih cl i pend hk h)
    simpa using this

theorem resolve_refs {lk : Nat → Option CDef} (hu : UidInj lk) (pre : List Nat) (once : Life) :
    ∀ f cl i pend, Known lk cl → Refs cl pend →
      Refs (resolve lk pre once f cl i).1 (pend ++ [(resolve lk pre once f cl i).2]) := by
  intro f
  induction f with
  | zero => exact fun cl i pend _ h => h.param i.1 i.2
  | succ f ih =>
    intro cl (ty, m) pend hk h
    have hfold := foldRes_refs ih
    refine resolve_succ (fun out => Refs out.1 (pend ++ [out.2])) (fun _ => h.param ty m) ?_ ?_
    · intro c i cl' hf
      obtain ⟨hk', h'⟩ : Known lk cl' ∧ Refs cl' pend := by
        rcases hf.closure with rfl | rfl
        · exact ⟨hk, h⟩
        · exact ⟨foldRes_known pre once f _ hk, (hfold _ _ _ hk h).drop⟩
      -- the answer is node `i`, which exists and is not transient
      refine h'.answer _ fun j hj => ?_
      cases hj
      obtain ⟨n, hn, rfl⟩ := found_ctor hu hk' hf.lookup hf.index
      refine ⟨(List.getElem?_eq_some_iff.mp hn).1, fun ⟨n', hn', ht⟩ => hf.longLived ?_⟩
      rw [hn] at hn'
      cases hn'
      exact ht
    · rintro c r - rfl -
      exact (hfold _ _ _ hk h).push c

/-- what `transient_per_site` assumes of the closure the step starts from: `Known`, and every reference is to an existing node -/
structure Good (lk : Nat → Option CDef) (cl : Closure) : Prop where
  ran : ∀ n ∈ cl.nodes, ∃ t, lk t = some n.ctor
  ws : ∀ j, Src.built j ∈ cl.inner → j < cl.nodes.length

theorem good_addParam {lk : Nat → Option CDef} {cl : Closure} (ty : Nat) (m : Mode) (h : Good lk cl) :
    Good lk (cl.addParam ty m) :=
  -- as for `Refs.addParam`
  { ran := h.ran, ws := h.ws }

/-- the traversal continues through a constructor: transient, or request-scoped and not prebuilt -/
def Open (P : List Nat) (c : CDef) : Prop :=
  c.life = .transient ∨ (c.life = .request ∧ P.contains c.uid = false)

/-- type `t` reaches the request-scoped constructor `x` (which then gets a node) when the components in `P`
    are prebuilt -/
inductive Reach (lk : Nat → Option CDef) (P : List Nat) : Nat → CDef → Prop where
  | here {t : Nat} {c : CDef} : lk t = some c → c.life = .request → P.contains c.uid = false → Reach lk P t c
  | step {t j : Nat} {m : Mode} {c x : CDef} : lk t = some c → Open P c → (j, m) ∈ c.ins → Reach lk P j x →
      Reach lk P t x

theorem reach_mono {lk : Nat → Option CDef} {P : List Nat} {t : Nat} {x : CDef} (h : Reach lk P t x) :
    Reach lk [] t x := by
  induction h with
  | here hl hlife _ => exact Reach.here hl hlife rfl
  | step hl ho hjm _ ih => exact Reach.step hl (ho.imp id fun ho => ⟨ho.1, rfl⟩) hjm ih

theorem reach_target {lk : Nat → Option CDef} {P : List Nat} {t : Nat} {x : CDef} (h : Reach lk P t x) :
    x.life = .request ∧ P.contains x.uid = false ∧ ∃ t', lk t' = some x := by
  induction h with
  | here hl hlife hp => exact ⟨hlife, hp, _, hl⟩
  | step _ _ _ _ ih => exact ih

theorem reach_trans {lk : Nat → Option CDef} {t : Nat} {d x : CDef} {jm : Nat × Mode}
    (h : Reach lk [] t d) (hjm : jm ∈ d.ins) (hx : Reach lk [] jm.1 x) : Reach lk [] t x := by
  induction h with
  | here hl hlife _ => exact Reach.step hl (Or.inr ⟨hlife, rfl⟩) hjm hx
  | step hl ho hjm' _ ih => exact Reach.step hl ho hjm' (ih hjm)

theorem no_reach_of_param {lk : Nat → Option CDef} {P : List Nat} {ty : Nat} (h : ParamTy lk P .request ty) (x : CDef) :
    ¬ Reach lk P ty x := by
  -- the traversal does not go through the constructor of a parameter type
  have hshut : ∀ c, lk ty = some c → ¬ Open P c := by
    intro c hl ho
    obtain ⟨hnt, hpre⟩ := h c hl
    rcases ho with ht | ⟨hr, hnp⟩
    · exact hnt ht
    · rw [hpre hr] at hnp
      cases hnp
  intro hr
  cases hr with
  | here hl hlife hp => exact hshut _ hl (Or.inr ⟨hlife, hp⟩)
  | step hl ho _ _ => exact hshut _ hl ho

theorem resolve_sound (lk : Nat → Option CDef) (P : List Nat) :
    ∀ f cl ty m, ∀ n ∈ (resolve lk P .request f cl (ty, m)).1.nodes, n.ctor.life = .request →
      n ∈ cl.nodes ∨ Reach lk P ty n.ctor := by
  intro f
  induction f with
  | zero => exact fun cl ty m n hn _ => Or.inl hn
  | succ f ih =>
    intro cl ty m
    let Sound (cl' : Closure) : Prop :=
      ∀ n ∈ cl'.nodes, n.ctor.life = .request → n ∈ cl.nodes ∨ Reach lk P ty n.ctor
    have hfold : ∀ c, lk ty = some c → Open P c →
        Sound (foldRes (resolve lk P .request f) cl c.ins).1 := by
      intro c hl ho
      refine foldRes_preserves Sound _ c.ins (fun jm hjm cl' h n hn hr => ?_) cl
        (fun n hn _ => Or.inl hn)
      -- a node added for the input `jm` of `c` is reached from `ty` through `c`
      rcases ih cl' jm.1 jm.2 n hn hr with hold | hreach
      · exact h n hold hr
      · exact Or.inr (Reach.step hl ho hjm hreach)
    refine resolve_succ (fun out => Sound out.1) (fun _ n hn _ => Or.inl hn) ?_ ?_
    · intro c i cl' hf
      rcases hf.closure with rfl | rfl
      · exact fun n hn _ => Or.inl hn
      · exact hfold c hf.lookup (Or.inr ⟨hf.life, hf.notPre⟩)
    · rintro c r hl rfl ho n hn hr
      have ho' : Open P c := ho.imp id fun h => ⟨h.1, h.2.1⟩
      rcases List.mem_append.mp hn with hn | hn
      · exact hfold c hl ho' n hn hr
      · -- the new node: `c` itself, request-scoped, hence not transient
        cases List.mem_singleton.mp hn
        have hnp : P.contains c.uid = false :=
          ho.elim (fun ht => by rw [ht] at hr; cases hr) fun h => h.2.1
        exact Or.inr (Reach.here hl hr hnp)

theorem closure_sound (lk : Nat → Option CDef) (P : List Nat) (f : Nat) (ins : List (Nat × Mode)) :
    ∀ n ∈ (closureOf lk P .request f ins).1.nodes, n.ctor.life = .request → ∃ jm ∈ ins, Reach lk P jm.1 n.ctor :=
  foldRes_preserves
    (fun cl => ∀ n ∈ cl.nodes, n.ctor.life = .request → ∃ jm ∈ ins, Reach lk P jm.1 n.ctor) _ ins
    (fun jm hjm cl h n hn hr =>
      (resolve_sound lk P f cl jm.1 jm.2 n hn hr).elim (fun hold => h n hold hr)
        fun hreach => ⟨jm, hjm, hreach⟩)
    {} (fun _ hn => nomatch hn)

/-- dependency chains are shorter than the recursion depth: types have a rank that decreases along inputs -/
def Deep (lk : Nat → Option CDef) (rank : Nat → Nat) : Prop :=
  ∀ t c jm, lk t = some c → jm ∈ c.ins → rank jm.1 < rank t

def HasNode (cl : Closure) (x : CDef) : Prop := ∃ n ∈ cl.nodes, n.ctor = x

/-- every request-scoped constructor reachable from an input of an existing node has a node -/
def Closed (lk : Nat → Option CDef) (P : List Nat) (cl : Closure) : Prop :=
  ∀ n ∈ cl.nodes, ∀ jm ∈ n.ctor.ins, ∀ x, Reach lk P jm.1 x → HasNode cl x

/-- what a traversal step guarantees about reachability -/
structure Covers (lk : Nat → Option CDef) (P : List Nat) (cl cl' : Closure) (tys : List Nat) : Prop where
  closed : Closed lk P cl'
  reach : ∀ t ∈ tys, ∀ x, Reach lk P t x → HasNode cl' x
  mono : ∀ x, HasNode cl x → HasNode cl' x

theorem foldRes_covers {lk : Nat → Option CDef} {P : List Nat} {f : Nat} (l : List (Nat × Mode))
    (hr : ∀ jm ∈ l, ∀ cl, Known lk cl → Closed lk P cl → Covers lk P cl (resolve lk P .request f cl jm).1 [jm.1]) :
    ∀ cl, Known lk cl → Closed lk P cl →
      Covers lk P cl (foldRes (resolve lk P .request f) cl l).1 (l.map (·.1)) := by
  induction l with
  | nil => exact fun cl _ hc => ⟨hc, fun _ ht => (nomatch ht), fun _ hx => hx⟩
  | cons i rest ih =>
    intro cl hk hc
    have c1 := hr i List.mem_cons_self cl hk hc
    have c2 := ih (fun jm hjm => hr jm (List.mem_cons_of_mem _ hjm)) _
      (resolve_known P .request f i hk) c1.closed
    refine ⟨c2.closed, fun t ht x hx => ?_, fun x hx => c2.mono x (c1.mono x hx)⟩
    rcases List.mem_cons.mp ht with rfl | ht
    · exact c2.mono x (c1.reach _ List.mem_cons_self x hx)
    · exact c2.reach t ht x hx

theorem resolve_complete (lk : Nat → Option CDef) (hu : UidInj lk) (P : List Nat) (rank : Nat → Nat)
    (hdeep : Deep lk rank) :
    ∀ f cl ty m, Known lk cl → Closed lk P cl → rank ty < f →
      Covers lk P cl (resolve lk P .request f cl (ty, m)).1 [ty] := by
  intro f
  induction f with
  | zero => intro cl ty m _ _ hr; omega
  | succ f ih =>
    intro cl ty m hk hcl hr
    have hcov : ∀ c, lk ty = some c →
        Covers lk P cl (foldRes (resolve lk P .request f) cl c.ins).1 (c.ins.map (·.1)) := by
      intro c hl
      refine foldRes_covers c.ins (fun jm hjm cl' hk' hc' => ih cl' jm.1 jm.2 hk' hc' ?_) cl hk hcl
      have := hdeep ty c jm hl hjm
      omega
    refine resolve_succ (fun out => Covers lk P cl out.1 [ty]) (fun hparam => ?_) ?_ ?_
    · -- a parameter reaches nothing
      refine ⟨hcl, fun t ht x hx => ?_, fun _ hx => hx⟩
      cases List.mem_singleton.mp ht
      exact absurd hx (no_reach_of_param hparam x)
    · -- a node of `c` exists: everything reachable through it has a node
      intro c i cl' hf
      obtain ⟨hk', hcl', hmono⟩ :
          Known lk cl' ∧ Closed lk P cl' ∧ ∀ x, HasNode cl x → HasNode cl' x := by
        rcases hf.closure with rfl | rfl
        · exact ⟨hk, hcl, fun _ hx => hx⟩
        · have hc := hcov c hf.lookup
          exact ⟨foldRes_known P .request f _ hk, hc.closed, hc.mono⟩
      obtain ⟨n, hn, rfl⟩ := found_ctor hu hk' hf.lookup hf.index
      have hn := List.mem_of_getElem? hn
      refine ⟨hcl', fun t ht x hx => ?_, hmono⟩
      cases List.mem_singleton.mp ht
      cases hx with
      | here hl' _ _ =>
        cases hf.lookup.symm.trans hl'
        exact ⟨n, hn, rfl⟩
      | step hl' _ hjm hr' =>
        cases hf.lookup.symm.trans hl'
        exact hcl' n hn _ hjm _ hr'
    · -- the node of `c` is added after its inputs
      rintro c r hl hr -
      have hmono : ∀ {x}, HasNode r.1 x → HasNode (r.1.push c r.2).1 x :=
        fun hx => hx.imp fun _ hn => ⟨List.mem_append_left _ hn.1, hn.2⟩
      subst hr
      refine ⟨fun n hn jm hjm x hx => ?_, fun t ht x hx => ?_,
        fun x hx => hmono ((hcov c hl).mono x hx)⟩
      · rcases List.mem_append.mp hn with hn | hn
        · exact hmono ((hcov c hl).closed n hn jm hjm x hx)
        · cases List.mem_singleton.mp hn
          exact hmono ((hcov c hl).reach jm.1 (List.mem_map_of_mem hjm) x hx)
      · cases List.mem_singleton.mp ht
        cases hx with
        | here hl' _ _ =>
          cases hl.symm.trans hl'
          exact ⟨_, List.mem_concat_self, rfl⟩
        | step hl' _ hjm hr' =>
          cases hl.symm.trans hl'
          exact hmono ((hcov c hl).reach _ (List.mem_map_of_mem hjm) _ hr')

theorem closure_complete (lk : Nat → Option CDef) (hu : UidInj lk) (P : List Nat) (rank : Nat → Nat)
    (hdeep : Deep lk rank) (f : Nat) (hr : ∀ t, rank t < f) (ins : List (Nat × Mode)) :
    ∀ jm ∈ ins, ∀ x, Reach lk P jm.1 x → HasNode (closureOf lk P .request f ins).1 x :=
  fun jm hjm =>
    have hcov := foldRes_covers ins
      (fun jm _ cl hk hc => resolve_complete lk hu P rank hdeep f cl jm.1 jm.2 hk hc (hr _))
      {} (fun _ h => nomatch h) (fun _ h => nomatch h)
    hcov.reach jm.1 (List.mem_map_of_mem hjm)

theorem resolve_params (lk : Nat → Option CDef) (pre : List Nat) (once : Life) (rank : Nat → Nat)
    (hdeep : Deep lk rank) :
    ∀ f cl ty m, rank ty < f → (∀ p ∈ cl.params, ParamTy lk pre once p.1) →
      ∀ p ∈ (resolve lk pre once f cl (ty, m)).1.params, ParamTy lk pre once p.1 := by
  intro f
  induction f with
  | zero => intro cl ty m hr; omega
  | succ f ih =>
    intro cl ty m hr hcl
    let Params (cl' : Closure) : Prop := ∀ p ∈ cl'.params, ParamTy lk pre once p.1
    have hfold : ∀ c, lk ty = some c → Params (foldRes (resolve lk pre once f) cl c.ins).1 := by
      intro c hl
      refine foldRes_preserves Params _ c.ins (fun jm hjm cl' h => ih cl' jm.1 jm.2 ?_ h) cl hcl
      have := hdeep ty c jm hl hjm
      omega
    refine resolve_succ (fun out => Params out.1) (fun h p hp => ?_) ?_ ?_
    · rcases List.mem_append.mp hp with hp | hp
      · exact hcl p hp
      · cases List.mem_singleton.mp hp
        exact h
    · intro c i cl' hf
      rcases hf.closure with rfl | rfl
      · exact hcl
      · exact hfold c hf.lookup
    · rintro c r hl rfl -
      exact hfold c hl

theorem closure_params (lk : Nat → Option CDef) (pre : List Nat) (once : Life) (rank : Nat → Nat) (hdeep : Deep lk rank) (f : Nat)
    (hr : ∀ t, rank t < f) (ins : List (Nat × Mode)) :
    ∀ p ∈ (closureOf lk pre once f ins).1.params, ParamTy lk pre once p.1 :=
  foldRes_preserves (fun cl => ∀ p ∈ cl.params, ParamTy lk pre once p.1) _ ins
    (fun jm _ cl h => resolve_params lk pre once rank hdeep f cl jm.1 jm.2 (hr _) h)
    {} (fun _ hp => nomatch hp)

end Pxv.Life
