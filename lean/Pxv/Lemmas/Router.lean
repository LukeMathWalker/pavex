import Pxv.Model.Router
import Pxv.Lemmas.Matchit
import Pxv.Lemmas.Basic
/-! Lemmas for C07 about the router model: the generated dispatch in terms of the table entries
    (from `atGo_spec`); the method arms of one entry; and what an accepted path router holds.
    `PathRouter::new` is opened once; its entries are then read key by key through `look`, which
    turns `buildLeaves` into a fold of `stepAt` over the handlers. -/
namespace Pxv.Router
open Pxv.Matchit

theorem foldl_reach {α β : Type} {f : β → α → β} (Q : β → Prop) {L : List α} (b : β)
    {x : α} (hx : x ∈ L) (htrig : ∀ b, Q (f b x)) (hkeep : ∀ b, ∀ y ∈ L, Q b → Q (f b y)) :
    Q (L.foldl f b) := by
  obtain ⟨L1, L2, rfl⟩ := List.append_of_mem hx
  rw [List.foldl_append, List.foldl_cons]
  exact List.foldlRecOn (motive := Q) _ _ (htrig _) fun b h y hy => hkeep b y (by simp [hy]) h

/-- The route set `matchit` holds after `insert(f a, i)` for the `i`-th entry `a` of `l`
    (`PathRouter.rset` and `domRset` unfold to it). -/
def idxRset {α : Type} (f : α → List Char) (l : List α) : RSet :=
  ((List.range l.length).zip (l.map f)).map (fun q => (q.1, toks q.2))

theorem mem_idxRset {α : Type} {f : α → List Char} {l : List α} {i : Nat} {t : List Tok} :
    (i, t) ∈ idxRset f l ↔ ∃ a, l[i]? = some a ∧ toks (f a) = t := by
  simp only [idxRset, List.mem_iff_getElem?, List.getElem?_map, Option.map_eq_some_iff,
    List.getElem?_zip_eq_some, Prod.exists, Prod.mk.injEq]
  -- the `k`-th pair is `(k, f l[k])`
  constructor
  · rintro ⟨k, k', p, ⟨hk, a, ha, rfl⟩, rfl, rfl⟩
    obtain ⟨_, rfl⟩ := List.getElem?_eq_some_iff.mp hk
    exact ⟨a, by simpa using ha, rfl⟩
  · rintro ⟨a, ha, rfl⟩
    have hi : i < l.length := (List.getElem?_eq_some_iff.mp ha).1
    exact ⟨i, i, f a, ⟨List.getElem?_range hi, a, ha, rfl⟩, rfl, rfl⟩

theorem mem_rset_iff {r : PathRouter} {i : Nat} {t : List Tok} :
    (i, t) ∈ r.rset ↔ ∃ l, r.leaves[i]? = some l ∧ l.toks = t := mem_idxRset

theorem mem_domRset_iff {ds : List DomainEntry} {i : Nat} {t : List Tok} :
    (i, t) ∈ domRset ds ↔ ∃ d, ds[i]? = some d ∧ d.toks = t := mem_idxRset

/-- `atGo_spec` for a router filled from a list of entries, in terms of the entries. -/
theorem atIdx_cases {α : Type} (f : α → List Char) (l : List α)
    (hN : NoNestedSuffix (idxRset f l)) (p : List Char) :
    (∃ i a, atRoutes ((List.range l.length).zip (l.map f)) p = some i ∧ l[i]? = some a ∧
      matchTok (toks (f a)) p = true ∧
      ∀ a' ∈ l, matchTok (toks (f a')) p = true →
        specGE (toks (f a)) (toks (f a')) = true) ∨
    (atRoutes ((List.range l.length).zip (l.map f)) p = none ∧
      ∀ a ∈ l, matchTok (toks (f a)) p = false) := by
  have spec := atGo_spec (idxRset f l) p hN
  have hmem : ∀ a ∈ l, ∃ j, (j, toks (f a)) ∈ idxRset f l := by
    intro a ha
    obtain ⟨j, hj⟩ := List.getElem?_of_mem ha
    exact ⟨j, mem_idxRset.mpr ⟨a, hj, rfl⟩⟩
  cases h : atGo (idxRset f l) p with
  | some i =>
    obtain ⟨t, hm, hmt, hmax⟩ := spec.1 i h
    obtain ⟨a, ha, rfl⟩ := mem_idxRset.mp hm
    refine Or.inl ⟨i, a, h, ha, hmt, fun a' ha' hm' => ?_⟩
    obtain ⟨j, hj⟩ := hmem a' ha'
    exact hmax j _ hj hm'
  | none =>
    refine Or.inr ⟨h, fun a ha => ?_⟩
    obtain ⟨j, hj⟩ := hmem a ha
    exact spec.2 h j _ hj

theorem Routed.inv {r : PathRouter} {m : String} {path : List Char} {o : Outcome}
    (h : Routed r m path o) :
    (∃ l, MostSpecific r l path ∧ o = l.dispatch m) ∨
    ((∀ l ∈ r.leaves, ¬ l.Matches path) ∧ o = .fallback r.rootFb []) := by
  cases h with
  | entry l hl => exact Or.inl ⟨l, hl, rfl⟩
  | none hn => exact Or.inr ⟨hn, rfl⟩

theorem routed_of_pathDispatch (r : PathRouter) (hN : NoNestedSuffix r.rset) (m : String)
    (path : List Char) : Routed r m path (r.dispatch m path) := by
  unfold PathRouter.dispatch PathRouter.routes
  rcases atIdx_cases Leaf.path r.leaves hN path with ⟨i, l, hi, hl, hm, hmax⟩ | ⟨hi, hnone⟩
  · rw [hi]
    simp only [hl]
    exact .entry l ⟨List.mem_of_getElem? hl, hm, hmax⟩
  · rw [hi]
    exact .none fun l hl hm => Bool.noConfusion (hm.symm.trans (hnone l hl))

/-- The path level of the generated `route` function, in terms of the table entries. -/
theorem pathDispatch_spec (r : PathRouter) (hN : NoNestedSuffix r.rset) (m : String)
    (path : List Char) :
    (∃ l, MostSpecific r l path ∧ r.dispatch m path = l.dispatch m) ∨
    ((∀ l ∈ r.leaves, ¬ l.Matches path) ∧ r.dispatch m path = .fallback r.rootFb []) :=
  (routed_of_pathDispatch r hN m path).inv

theorem tableDispatch_spec (t : Table) (hN : t.NoNestedSuffix) (req : Request) :
    TableRouted t req (t.dispatch req) := by
  cases t with
  | agnostic r => exact .agnostic (routed_of_pathDispatch r hN _ _)
  | domains ds f =>
    unfold Table.dispatch
    cases hh : req.host.bind hostOf with
    | none =>
      refine .noDomain fun h e => ?_
      rw [hh] at e
      cases e
    | some h =>
      simp only
      rcases atIdx_cases DomainEntry.pattern ds hN.1 (Pxv.Domain.normHost h) with
        ⟨i, d, hi, hd, hm, hmax⟩ | ⟨hi, hnone⟩
      · rw [hi]
        simp only [hd]
        have hmem := List.mem_of_getElem? hd
        exact .domain d hh ⟨hmem, hm, hmax⟩ (routed_of_pathDispatch d.router (hN.2 d hmem) _ _)
      · rw [hi]
        refine .noDomain fun h' e' d hd => ?_
        rw [hh] at e'
        cases e'
        exact hnone d hd

theorem Table.noNestedSuffix_of_check {t : Table} (h : t.noNestedSuffixB = true) : t.NoNestedSuffix := by
  cases t with
  | agnostic r => exact Pxv.Matchit.noNestedSuffix_of_check h
  | domains ds f =>
    simp only [Table.noNestedSuffixB, Bool.and_eq_true, List.all_eq_true] at h
    exact ⟨Pxv.Matchit.noNestedSuffix_of_check h.1,
      fun d hd => Pxv.Matchit.noNestedSuffix_of_check (h.2 d hd)⟩

theorem leaf_dispatch_of_arm {l : Leaf} {m : String} {a : Nat × Nat × List String}
    (h : l.arms.find? (fun a => a.2.2.contains m) = some a) : l.dispatch m = .handler a.2.1 := by
  unfold Leaf.dispatch
  rw [h]

theorem leaf_dispatch_no_arm {l : Leaf} {m : String}
    (h : ∀ a ∈ l.arms, a.2.2.contains m = false) :
    l.dispatch m = match l.fb with
      | .handler h => .handler h
      | .fallback f => .fallback f l.allowed := by
  unfold Leaf.dispatch
  have : l.arms.find? (fun a => a.2.2.contains m) = none := by
    rw [List.find?_eq_none]
    intro a ha
    rw [h a ha]
    simp
  rw [this]
  cases l.fb <;> rfl

theorem leaf_dispatch_cases (l : Leaf) (m : String) :
    (∃ a ∈ l.arms, a.2.2.contains m = true ∧ l.dispatch m = .handler a.2.1) ∨
    ((∀ a ∈ l.arms, a.2.2.contains m = false) ∧ l.dispatch m = match l.fb with
      | .handler h => .handler h
      | .fallback f => .fallback f l.allowed) := by
  cases hf : l.arms.find? (fun a => a.2.2.contains m) with
  | some a =>
    have hc : a.2.2.contains m = true :=
      List.find?_some (p := fun a : Nat × Nat × List String => a.2.2.contains m) hf
    exact .inl ⟨a, List.mem_of_find?_eq_some hf, hc, leaf_dispatch_of_arm hf⟩
  | none =>
    have hn := fun a ha => Bool.eq_false_iff.mpr (List.find?_eq_none.mp hf a ha)
    exact .inr ⟨hn, leaf_dispatch_no_arm hn⟩

theorem leaf_dispatch_fallback_iff {l : Leaf} {m : String} {f : Option Nat} {allowed : List String} :
    l.dispatch m = .fallback f allowed ↔
      (∀ a ∈ l.arms, a.2.2.contains m = false) ∧ l.fb = .fallback f ∧ allowed = l.allowed := by
  constructor
  · intro h
    rcases leaf_dispatch_cases l m with ⟨a, _, _, e⟩ | ⟨hn, e⟩
    · rw [e] at h
      cases h
    · rw [e] at h
      refine ⟨hn, ?_⟩
      cases hfb : l.fb with
      | handler h' =>
        rw [hfb] at h
        cases h
      | fallback f' =>
        rw [hfb] at h
        cases h
        exact ⟨rfl, rfl⟩
  · rintro ⟨hn, hfb, rfl⟩
    rw [leaf_dispatch_no_arm hn, hfb]

/-- With at most one accepting arm, the handler that runs is *the* accepting one. -/
theorem leaf_dispatch_unique {l : Leaf} {m : String} {h : Nat} (hu : l.accepting m = [h]) :
    l.dispatch m = .handler h := by
  obtain ⟨a, ha, rfl⟩ := List.map_eq_singleton_iff.mp hu
  have hfind : l.arms.find? (fun a => a.2.2.contains m) = some a := by
    rw [← List.head?_filter, ha]
    rfl
  exact leaf_dispatch_of_arm hfind

theorem scopeFallback_spec {fbs : List Fb} {s : Scope} {fb : Fb} (h : scopeFallback fbs s = some fb) :
    fb ∈ fbs ∧ fb.bp.isPrefixOf s = true ∧
      ∀ fb' ∈ fbs, fb'.bp.isPrefixOf s = true → fb'.bp.length ≤ fb.bp.length := by
  unfold scopeFallback at h
  -- after `done`, `best` is a longest enclosing blueprint among `done` (none if there is none)
  refine (foldl_invariant (fun done best =>
    (∀ b, best = some b → b ∈ done ∧ b.bp.isPrefixOf s = true ∧
      ∀ fb' ∈ done, fb'.bp.isPrefixOf s = true → fb'.bp.length ≤ b.bp.length) ∧
    (best = none → ∀ fb' ∈ done, fb'.bp.isPrefixOf s ≠ true))
    ⟨by simp, by simp⟩ ?_).1 fb h
  intro done x best _ ⟨hs, hn⟩
  have mem {P : Fb → Prop} (h1 : ∀ y ∈ done, P y) (h2 : P x) : ∀ y ∈ done ++ [x], P y :=
    List.forall_mem_append.mpr ⟨h1, List.forall_mem_singleton.mpr h2⟩
  by_cases hx : x.bp.isPrefixOf s = true
  · simp only [hx, if_true]
    cases best with
    | none =>
      refine ⟨?_, by simp⟩
      rintro b ⟨rfl⟩
      exact ⟨by simp, hx, mem (fun y hy hp => absurd hp (hn rfl y hy)) (fun _ => Nat.le_refl _)⟩
    | some b0 =>
      obtain ⟨hb0, hp0, hmax0⟩ := hs b0 rfl
      by_cases hge : x.bp.length ≥ b0.bp.length
      · simp only [hge, if_true]
        refine ⟨?_, by simp⟩
        rintro b ⟨rfl⟩
        exact ⟨by simp, hx,
          mem (fun y hy hp => Nat.le_trans (hmax0 y hy hp) hge) (fun _ => Nat.le_refl _)⟩
      · simp only [hge, if_false]
        refine ⟨?_, by simp⟩
        rintro b ⟨rfl⟩
        exact ⟨by simp [hb0], hp0, mem hmax0 (fun _ => by omega)⟩
  · simp only [hx]
    refine ⟨fun b hb => ?_, fun hb => mem (hn hb) hx⟩
    obtain ⟨h1, h2, h3⟩ := hs b hb
    exact ⟨by simp [h1], h2, mem h3 (fun hp => absurd hp hx)⟩

theorem admits_some_iff {ms : List String} {m : String} :
    (MGuard.some ms).admits m = true ↔ m ∈ ms := by
  simp [MGuard.admits]

/-- `detect_method_conflicts` only tries the well-known methods and those a guard for the path
    lists; that suffices for every method, also one only an `ANY` guard covers. -/
theorem methodConflict_false {hs : List Handler} (h : methodConflict hs = false) {a b : Handler}
    (ha : a ∈ hs) (hb : b ∈ hs) (hp : b.path = a.path) {m : String}
    (hma : a.guard.admits m = true) (hmb : b.guard.admits m = true) : a = b := by
  apply Classical.byContradiction
  intro hab
  unfold methodConflict at h
  rw [List.any_eq_false] at h
  have h1 := h a ha
  simp only [Bool.not_eq_true] at h1
  rw [List.any_eq_false] at h1
  have hga : a ∈ hs.filter (fun b => b.path == a.path) := by simp [ha]
  have hgb : b ∈ hs.filter (fun b => b.path == a.path) := by simp [hb, hp]
  -- `G`: the handlers registered for the path of `a`
  generalize hs.filter (fun b => b.path == a.path) = G at h1 hga hgb
  -- a method of the checked list that both accept
  have key : ∃ m', m' ∈ wellKnown ++ G.flatMap (fun b => b.guard.listed) ∧
      a.guard.admits m' = true ∧ b.guard.admits m' = true := by
    cases hag : a.guard with
    | some ms =>
      refine ⟨m, ?_, hag ▸ hma, hmb⟩
      rw [hag] at hma
      apply List.mem_append_right
      rw [List.mem_flatMap]
      exact ⟨a, hga, by simpa [hag, MGuard.listed] using admits_some_iff.mp hma⟩
    | any =>
      cases hbg : b.guard with
      | some ms =>
        refine ⟨m, ?_, by simp [MGuard.admits], hbg ▸ hmb⟩
        rw [hbg] at hmb
        apply List.mem_append_right
        rw [List.mem_flatMap]
        exact ⟨b, hgb, by simpa [hbg, MGuard.listed] using admits_some_iff.mp hmb⟩
      | any =>
        exact ⟨"GET", List.mem_append_left _ (by simp [wellKnown]),
          by simp [MGuard.admits], by simp [MGuard.admits]⟩
  obtain ⟨m', hm', ha', hb'⟩ := key
  have h2 := h1 m' hm'
  simp only [decide_eq_true_eq, Nat.not_lt] at h2
  have : [a, b].length ≤ (G.filter (fun b => b.guard.admits m')).length :=
    List.Nodup.length_le_of_subset (by simp [hab]) (by simp [hga, ha', hgb, hb'])
  simp only [List.length_cons, List.length_nil] at this
  omega

theorem mem_handlersOf {cs : List Comp} {x : Handler} : x ∈ handlersOf cs ↔ Comp.handler x ∈ cs := by
  unfold handlersOf
  simp only [List.mem_filterMap]
  constructor
  · rintro ⟨c, hc, h⟩
    cases c with
    | handler y =>
      obtain rfl : y = x := by simpa using h
      exact hc
    | fallback y => cases h
  · exact fun h => ⟨_, h, rfl⟩

theorem fallbackPaths_spec {fbs0 : List Fb} (fbs : List Fb) (hsub : ∀ fb ∈ fbs, fb ∈ fbs0)
    {vr pr : Router} {acc out : List PathFb} {pr' : Router}
    (hacc : ∀ q ∈ acc, q.fb ∈ fbs0 ∧
      ∃ pfx, q.fb.pfx = some pfx ∧ fallbackPath pfx = some q.path)
    (h : fallbackPaths fbs vr pr acc = .ok (out, pr')) :
    ∀ q ∈ out, q.fb ∈ fbs0 ∧
      ∃ pfx, q.fb.pfx = some pfx ∧ fallbackPath pfx = some q.path := by
  induction fbs generalizing vr pr acc with
  | nil =>
    simp only [fallbackPaths, Except.ok.injEq, Prod.mk.injEq] at h
    exact h.1 ▸ hacc
  | cons fb rest ih =>
    have ih' := @ih (fun f hf => hsub f (List.mem_cons_of_mem _ hf))
    unfold fallbackPaths at h
    -- `fb` adds a catch-all path only if it has a prefix `p` with catch-all path `fp` that both
    -- routers accept; otherwise it is skipped or the whole loop fails
    split at h
    · exact ih' hacc h
    next p hp =>
      split at h
      · exact ih' hacc h
      next fp hfp =>
        split at h
        · exact ih' hacc h
        · cases h
        · cases h
        · split at h
          · cases h
          · refine ih' (fun q hq => ?_) h
            rcases List.mem_append.mp hq with hq | hq
            · exact hacc q hq
            · rw [List.mem_singleton.mp hq]
              exact ⟨hsub fb List.mem_cons_self, p, hp, hfp⟩

/-- What `PathRouter::new` has checked when it answers `r`: the entries are the sorted
    `path2method_router` built from the handlers, each with its fallback (`hfs`), and the catch-all
    paths of the prefix-based fallbacks (`pfbs`), and the generated insertions succeed in that
    order. -/
structure PathRouter.Built (comps : List Comp) (fbs : List Fb) (r : PathRouter)
    (hfs : List (Handler × Fb)) (pfbs : List PathFb) : Prop where
  leaves : r.leaves = sortLeaves (addCatchAlls pfbs (buildLeaves hfs []))
  sub : ∀ y ∈ hfs, y.1 ∈ handlersOf comps
  all : ∀ x ∈ handlersOf comps, ∃ fb, (x, fb) ∈ hfs
  noConflict : methodConflict (handlersOf comps) = false
  root : ∃ rootFb, scopeFallback fbs (commonAncestor (comps.map Comp.scope)) = some rootFb ∧
    r.rootFb = rootFb.f
  catchAlls : ∀ q ∈ pfbs, q.fb ∈ fallbacksOf comps ∧
    ∃ pfx, q.fb.pfx = some pfx ∧ fallbackPath pfx = some q.path
  runtime : ∃ rt, runtimeInserts r.leaves 0 {} = .ok rt

/-- The handlers `hs`, each paired with the fallback `f` finds for it; those without one dropped. -/
theorem mem_assigned {hs : List Handler} {f : Handler → Option Fb} {y : Handler × Fb} :
    y ∈ (hs.map fun h => (h, f h)).filterMap (fun a => a.2.map fun fb => (a.1, fb)) ↔
      y.1 ∈ hs ∧ f y.1 = some y.2 := by
  simp only [List.mem_filterMap, List.mem_map, Option.map_eq_some_iff]
  constructor
  · rintro ⟨_, ⟨x, hx, rfl⟩, fb, hfb, rfl⟩
    exact ⟨hx, hfb⟩
  · rintro ⟨hx, hfb⟩
    exact ⟨_, ⟨y.1, hx, rfl⟩, y.2, hfb, rfl⟩

theorem PathRouter.new_leaves {comps : List Comp} {fbs : List Fb} {r : PathRouter}
    (h : PathRouter.new comps fbs = .ok r) : ∃ hfs pfbs, PathRouter.Built comps fbs r hfs pfbs := by
  unfold PathRouter.new at h
  simp only at h
  split at h
  · cases h
  next rootFb hroot =>
    split at h
    · cases h
    next hconf =>
      split at h
      · cases h
      · split at h
        · cases h
        next pfbs pr hpf =>
          split at h
          · cases h
          next hall =>
            split at h
            · cases h
            · split at h
              · cases h
              next rt hrt =>
                cases h
                refine ⟨_, pfbs, {
                  leaves := rfl
                  sub := fun y hy => (mem_assigned.mp hy).1
                  all := fun x hx => ?_
                  noConflict := by simpa using hconf
                  root := ⟨rootFb, hroot, rfl⟩
                  catchAlls := fallbackPaths_spec _ (fun fb hfb => hfb)
                    (fun _ hq => absurd hq List.not_mem_nil) hpf
                  runtime := ⟨rt, hrt⟩ }⟩
                -- `hall`: `handlerFallback` has found a fallback for every handler
                cases hfb : handlerFallback fbs pfbs pr x with
                | none =>
                  refine absurd (List.any_eq_true.mpr ⟨_, List.mem_map.mpr ⟨x, hx, rfl⟩, ?_⟩)
                    hall
                  simp [hfb]
                | some fb => exact ⟨fb, mem_assigned.mpr ⟨hx, hfb⟩⟩

def look (p : List Char) (ls : List Leaf) : Option Leaf := ls.find? (fun l => l.path = p)

theorem look_some {p : List Char} {ls : List Leaf} {l : Leaf} (h : look p ls = some l) :
    l ∈ ls ∧ l.path = p :=
  ⟨List.mem_of_find?_eq_some h, by simpa using List.find?_some h⟩

theorem look_upsert (p q : List Char) (arms : List (Nat × Nat × List String)) (fb : Target)
    (upd : Leaf → Leaf) (ls : List Leaf) (hupd : ∀ l, l.path = q → (upd l).path = q) :
    look p (leafUpsert q ⟨q, arms, fb⟩ upd ls) =
      if p = q then some (upd ((look q ls).getD ⟨q, arms, fb⟩)) else look p ls := by
  induction ls with
  | nil =>
    by_cases hpq : p = q <;>
      simp [leafUpsert, look, hupd ⟨q, arms, fb⟩ rfl, hpq, eq_comm (a := q)]
  | cons l ls ih =>
    by_cases hl : l.path = q
    · by_cases hpq : p = q <;> simp [leafUpsert, look, hl, hupd _ hl, hpq, eq_comm (a := q)]
    · by_cases hlp : l.path = p
      · subst hlp
        simp [leafUpsert, look, hl]
      · simpa [leafUpsert, look, hl, hlp] using ih

/-- What one handler does to the entry for `p`. -/
def stepAt (p : List Char) (ol : Option Leaf) (x : Handler × Fb) : Option Leaf :=
  if x.1.path = p then
    match x.1.guard with
    | .any => some { path := p, arms := [], fb := .handler x.1.h }
    | .some ms =>
      let l := ol.getD { path := p, arms := [], fb := .fallback x.2.f }
      some { l with arms := l.arms ++ [(x.1.id, x.1.h, ms)] }
  else ol

theorem look_leafStep (p : List Char) (x : Handler × Fb) (acc : List Leaf) :
    look p (leafStep x acc) = stepAt p (look p acc) x := by
  unfold leafStep stepAt
  cases x.1.guard with
  | any =>
    simp only
    rw [look_upsert]
    · by_cases h : p = x.1.path <;> simp [h, eq_comm (a := x.1.path)]
    · exact fun _ _ => rfl
  | some ms =>
    simp only
    rw [look_upsert]
    · by_cases h : p = x.1.path <;> simp [h, eq_comm (a := x.1.path)]
    · exact fun _ hl => hl

theorem look_buildLeaves (p : List Char) (L : List (Handler × Fb)) (acc : List Leaf) :
    look p (buildLeaves L acc) = L.foldl (stepAt p) (look p acc) := by
  induction L generalizing acc with
  | nil => rfl
  | cons x rest ih => simp only [buildLeaves, List.foldl_cons, ih, look_leafStep]

theorem look_addCatchAlls (p : List Char) (ps : List PathFb) (acc : List Leaf) :
    look p (addCatchAlls ps acc) = (look p acc).or
      ((ps.find? (fun q => q.path = p)).map fun q =>
        { path := q.path, arms := [], fb := .fallback q.fb.f }) := by
  induction ps generalizing acc with
  | nil => simp [addCatchAlls]
  | cons q qs ih =>
    rw [addCatchAlls, ih, look_upsert _ _ _ _ id _ (fun _ hl => hl)]
    by_cases hpq : p = q.path
    · subst hpq
      cases look q.path acc <;> simp
    · simp [hpq, Ne.symm hpq]

theorem map_path_leafUpsert (q : List Char) (arms : List (Nat × Nat × List String)) (fb : Target)
    (upd : Leaf → Leaf) (ls : List Leaf) (hupd : ∀ l, l.path = q → (upd l).path = q) :
    (leafUpsert q ⟨q, arms, fb⟩ upd ls).map (·.path) =
      if q ∈ ls.map (·.path) then ls.map (·.path) else ls.map (·.path) ++ [q] := by
  induction ls with
  | nil => simp [leafUpsert, hupd ⟨q, arms, fb⟩ rfl]
  | cons l ls ih =>
    by_cases hl : l.path = q
    · simp [leafUpsert, hl, hupd l hl]
    · simp only [leafUpsert, hl, if_false, List.map_cons, ih, List.mem_cons, Ne.symm hl, false_or]
      split <;> rfl

theorem nodup_leafUpsert {q : List Char} {arms : List (Nat × Nat × List String)} {fb : Target}
    {upd : Leaf → Leaf} {ls : List Leaf} (hupd : ∀ l, l.path = q → (upd l).path = q)
    (h : (ls.map (·.path)).Nodup) :
    ((leafUpsert q ⟨q, arms, fb⟩ upd ls).map (·.path)).Nodup := by
  rw [map_path_leafUpsert _ _ _ _ _ hupd]
  split
  · exact h
  next hq =>
    -- `q` is new among the keys
    refine List.nodup_append.mpr ⟨h, List.pairwise_singleton _ q, fun a ha b hb e => hq ?_⟩
    rw [List.mem_singleton.mp hb] at e
    exact e ▸ ha

theorem nodup_buildLeaves (L : List (Handler × Fb)) {acc : List Leaf}
    (h : (acc.map (·.path)).Nodup) :
    ((buildLeaves L acc).map (·.path)).Nodup := by
  induction L generalizing acc with
  | nil => exact h
  | cons x rest ih =>
    refine ih ?_
    unfold leafStep
    cases x.1.guard with
    | any => exact nodup_leafUpsert (fun _ _ => rfl) h
    | some ms => exact nodup_leafUpsert (fun _ hl => hl) h

theorem nodup_addCatchAlls (ps : List PathFb) {acc : List Leaf} (h : (acc.map (·.path)).Nodup) :
    ((addCatchAlls ps acc).map (·.path)).Nodup := by
  induction ps generalizing acc with
  | nil => exact h
  | cons q qs ih => exact ih (nodup_leafUpsert (fun _ hl => hl) h)

theorem look_of_mem {ls : List Leaf} (hN : (ls.map (·.path)).Nodup) {l : Leaf} (hl : l ∈ ls) :
    look l.path ls = some l := by
  induction ls with
  | nil => cases hl
  | cons a as ih =>
    rw [List.map_cons, List.nodup_cons] at hN
    rcases List.mem_cons.mp hl with rfl | hl
    · simp [look]
    · have : a.path ≠ l.path := fun e => hN.1 (e ▸ List.mem_map_of_mem hl)
      simpa [look, this] using ih hN.2 hl

theorem insertLeaf_perm (x : Leaf) (ls : List Leaf) : (insertLeaf x ls).Perm (x :: ls) := by
  induction ls with
  | nil => exact .refl _
  | cons a as ih =>
    unfold insertLeaf
    split
    · exact .refl _
    · exact (ih.cons a).trans (.swap x a as)

theorem sortLeaves_perm (ls : List Leaf) : (sortLeaves ls).Perm ls := by
  induction ls with
  | nil => exact .refl _
  | cons a as ih => exact (insertLeaf_perm a _).trans (ih.cons a)

theorem stepAt_cases (p : List Char) (ol : Option Leaf) (x : Handler × Fb) :
    (x.1.path ≠ p ∧ stepAt p ol x = ol) ∨
    (x.1.path = p ∧ x.1.guard = .any ∧ stepAt p ol x = some ⟨p, [], .handler x.1.h⟩) ∨
    (∃ ms, x.1.path = p ∧ x.1.guard = .some ms ∧
      stepAt p ol x = some ⟨(ol.getD ⟨p, [], .fallback x.2.f⟩).path,
        (ol.getD ⟨p, [], .fallback x.2.f⟩).arms ++ [(x.1.id, x.1.h, ms)],
        (ol.getD ⟨p, [], .fallback x.2.f⟩).fb⟩) := by
  unfold stepAt
  by_cases hp : x.1.path = p
  · cases hg : x.1.guard with
    | any => exact Or.inr (Or.inl ⟨hp, rfl, by simp [hp]⟩)
    | some ms => exact Or.inr (Or.inr ⟨ms, hp, rfl, by simp [hp]⟩)
  · exact Or.inl ⟨hp, by simp [hp]⟩

/-- The entry `l` for `p` holds only what `L` registers for exactly that path: its arms, and its
    handler if it falls back to one. -/
structure FromHandlers (L : List (Handler × Fb)) (p : List Char) (l : Leaf) : Prop where
  path : l.path = p
  arms : ∀ a ∈ l.arms, ∃ y ∈ L, y.1.path = p ∧ y.1.guard = .some a.2.2 ∧ a.2.1 = y.1.h
  fb : ∀ h', l.fb = .handler h' → ∃ y ∈ L, y.1.path = p ∧ y.1.guard = .any ∧ y.1.h = h'

/-- An entry the handlers left for `p`: some handler is registered for `p`, and the entry holds
    only such handlers. -/
theorem fold_stepAt_sound {p : List Char} {L : List (Handler × Fb)} {l : Leaf}
    (h : L.foldl (stepAt p) none = some l) :
    (∃ y ∈ L, y.1.path = p) ∧ FromHandlers L p l := by
  refine List.foldlRecOn (motive := fun ol => ∀ l, ol = some l →
    (∃ y ∈ L, y.1.path = p) ∧ FromHandlers L p l) _ _ ?_ ?_ l h
  · intro l hl
    cases hl
  · intro ol hol x hx l hl
    rcases stepAt_cases p ol x with ⟨_, e⟩ | ⟨hp, hg, e⟩ | ⟨ms, hp, hg, e⟩
    · rw [e] at hl
      exact hol l hl
    · rw [e] at hl
      cases hl
      exact ⟨⟨x, hx, hp⟩, rfl, nofun, fun h' e => ⟨x, hx, hp, hg, Target.handler.inj e⟩⟩
    · -- a method guard: one more arm on the entry so far, or on an empty one
      rw [e] at hl
      cases hl
      have h0 : FromHandlers L p (ol.getD ⟨p, [], .fallback x.2.f⟩) := by
        cases ol with
        | none => exact ⟨rfl, nofun, nofun⟩
        | some l0 => exact (hol l0 rfl).2
      refine ⟨⟨x, hx, hp⟩, h0.path, fun a ha => ?_, h0.fb⟩
      rcases List.mem_append.mp ha with ha | ha
      · exact h0.arms a ha
      · rw [List.mem_singleton.mp ha]
        exact ⟨x, hx, hp, hg, rfl⟩

/-- Something in the entry answers `m` with a handler. -/
def Hit (l : Leaf) (m : String) : Prop :=
  (∃ a ∈ l.arms, a.2.2.contains m = true) ∨ (∃ h', l.fb = .handler h')

theorem stepAt_hit_keep {p : List Char} {m : String} {ol : Option Leaf} {y : Handler × Fb}
    (hol : ∃ l, ol = some l ∧ Hit l m) : ∃ l, stepAt p ol y = some l ∧ Hit l m := by
  obtain ⟨l0, rfl, hit⟩ := hol
  rcases stepAt_cases p (some l0) y with ⟨_, e⟩ | ⟨_, _, e⟩ | ⟨ms, _, _, e⟩
  · exact ⟨l0, e, hit⟩
  · exact ⟨_, e, Or.inr ⟨_, rfl⟩⟩
  · -- one more arm: what answered `m` is still there
    refine ⟨_, e, ?_⟩
    rcases hit with ⟨a, ha, hc⟩ | ⟨h', hfb⟩
    · exact Or.inl ⟨a, List.mem_append_left _ ha, hc⟩
    · exact Or.inr ⟨h', hfb⟩

theorem stepAt_hit_new {p : List Char} {m : String} (ol : Option Leaf) {y : Handler × Fb}
    (hp : y.1.path = p) (hadm : y.1.guard.admits m = true) :
    ∃ l, stepAt p ol y = some l ∧ Hit l m := by
  rcases stepAt_cases p ol y with ⟨hne, _⟩ | ⟨_, _, e⟩ | ⟨ms, _, hg, e⟩
  · exact absurd hp hne
  · exact ⟨_, e, Or.inr ⟨_, rfl⟩⟩
  · have hc : ms.contains m = true := by simpa [hg, MGuard.admits] using hadm
    exact ⟨_, e, Or.inl ⟨(y.1.id, y.1.h, ms), by simp, hc⟩⟩

/-- The entry for the path of a handler `x` that accepts `m` answers `m` with a handler (`Hit`: an
    arm of `x` stays unless an `ANY` handler replaces the entry), and whatever in it could answer
    `m` was registered for that path and accepts `m` (`fold_stepAt_sound`). -/
theorem buildLeaves_reachable {L : List (Handler × Fb)} {x : Handler × Fb} {m : String}
    (hx : x ∈ L) (hadm : x.1.guard.admits m = true)
    (hU : ∀ y ∈ L, y.1.path = x.1.path → y.1.guard.admits m = true → y.1.h = x.1.h) :
    ∃ l, look x.1.path (buildLeaves L []) = some l ∧ l.dispatch m = .handler x.1.h := by
  rw [look_buildLeaves]
  obtain ⟨l, hl, hit⟩ := foldl_reach (fun ol => ∃ l, ol = some l ∧ Hit l m) (look x.1.path [])
    hx (fun ol => stepAt_hit_new ol rfl hadm) (fun _ _ _ => stepAt_hit_keep)
  have hfrom := (fold_stepAt_sound hl).2
  refine ⟨l, hl, ?_⟩
  rcases leaf_dispatch_cases l m with ⟨a, ha, hc, e⟩ | ⟨hn, e⟩
  · -- an arm answers: it is of a handler for this path that accepts `m`
    obtain ⟨y, hy, hp, hg, ey⟩ := hfrom.arms a ha
    have hya : y.1.guard.admits m = true := by
      rw [hg]
      exact hc
    rw [e, ey, hU y hy hp hya]
  · rcases hit with ⟨a, ha, hc⟩ | ⟨h', efb⟩
    · rw [hn a ha] at hc
      cases hc
    · -- no arm answers: the entry falls back to an `ANY` handler for this path
      obtain ⟨y, hy, hp, hg, rfl⟩ := hfrom.fb h' efb
      have hya : y.1.guard.admits m = true := by
        rw [hg]
        rfl
      rw [e, efb, hU y hy hp hya]

/-- No handler registered for `p` has an `ANY` (incl. extension methods) guard. -/
def NoAnyAt (L : List (Handler × Fb)) (p : List Char) : Prop := ∀ y ∈ L, y.1.path = p → y.1.guard ≠ .any

theorem fold_arms_complete {p : List Char} (L : List (Handler × Fb)) (hNA : NoAnyAt L p) (ol : Option Leaf) :
    ∀ y ∈ L, y.1.path = p → ∀ ms, y.1.guard = .some ms →
      ∃ l, L.foldl (stepAt p) ol = some l ∧ (y.1.id, y.1.h, ms) ∈ l.arms := by
  intro y hy hp ms hg
  refine foldl_reach (fun ol => ∃ l, ol = some l ∧ (y.1.id, y.1.h, ms) ∈ l.arms) ol hy ?_ ?_
  · intro ol
    rcases stepAt_cases p ol y with ⟨hne, _⟩ | ⟨_, hg', _⟩ | ⟨ms', _, hg', e⟩
    · exact absurd hp hne
    · rw [hg] at hg'
      cases hg'
    · rw [hg] at hg'
      cases hg'
      exact ⟨_, e, by simp⟩
  · rintro _ z hz ⟨l0, rfl, ha⟩
    rcases stepAt_cases p (some l0) z with ⟨_, e⟩ | ⟨hzp, hzg, _⟩ | ⟨ms', _, _, e⟩
    · exact ⟨l0, e, ha⟩
    · exact absurd hzg (hNA z hz hzp)
    · exact ⟨_, e, List.mem_append_left _ ha⟩

/-- Every registered route is reachable: the entry for its path answers each method its guard
    accepts with its handler. -/
theorem PathRouter.new_reachable {comps : List Comp} {fbs : List Fb} {r : PathRouter}
    (h : PathRouter.new comps fbs = .ok r) {x : Handler} (hx : x ∈ handlersOf comps) {m : String}
    (hadm : x.guard.admits m = true) :
    ∃ l ∈ r.leaves, l.path = x.path ∧ l.dispatch m = .handler x.h := by
  obtain ⟨hfs, pfbs, b⟩ := PathRouter.new_leaves h
  obtain ⟨fb, hmem⟩ := b.all x hx
  -- a handler for the same path that accepts `m` is `x` itself: no method conflict
  obtain ⟨l, hlk, hd⟩ := buildLeaves_reachable (x := (x, fb)) hmem hadm
    (fun y hy hp hya => by rw [methodConflict_false b.noConflict hx (b.sub y hy) hp hadm hya])
  have hlk' : look x.path (addCatchAlls pfbs (buildLeaves hfs [])) = some l := by
    rw [look_addCatchAlls, hlk]
    rfl
  obtain ⟨hmem', hpath⟩ := look_some hlk'
  exact ⟨l, b.leaves ▸ (sortLeaves_perm _).mem_iff.mpr hmem', hpath, hd⟩

theorem PathRouter.look_of_mem_leaves {hfs : List (Handler × Fb)} {pfbs : List PathFb}
    {r : PathRouter} (hr : r.leaves = sortLeaves (addCatchAlls pfbs (buildLeaves hfs [])))
    {l : Leaf} (hl : l ∈ r.leaves) :
    look l.path (addCatchAlls pfbs (buildLeaves hfs [])) = some l :=
  look_of_mem (nodup_addCatchAlls pfbs (nodup_buildLeaves hfs (acc := []) .nil))
    ((sortLeaves_perm _).mem_iff.mp (hr ▸ hl))

/-- The entry for a handler's path answers with that handler: in an accepted path router, every
    entry whose path is the (full) path of a registered handler `x` dispatches each method `x`
    accepts to `x`. -/
theorem PathRouter.new_designated {comps : List Comp} {fbs : List Fb} {r : PathRouter}
    (h : PathRouter.new comps fbs = .ok r) {x : Handler} (hx : x ∈ handlersOf comps) {m : String}
    (hadm : x.guard.admits m = true) {l : Leaf} (hl : l ∈ r.leaves) (hp : l.path = x.path) :
    l.dispatch m = .handler x.h := by
  obtain ⟨l', hl', hp', hd⟩ := PathRouter.new_reachable h hx hadm
  obtain ⟨hfs, pfbs, b⟩ := PathRouter.new_leaves h
  -- `l` and the entry `l'` that answers with `x` are both the entry for that path
  have e := (PathRouter.look_of_mem_leaves b.leaves hl).symm.trans
    ((hp.trans hp'.symm) ▸ PathRouter.look_of_mem_leaves b.leaves hl')
  rw [Option.some.inj e]
  exact hd

/-- Every entry comes from the blueprint: its arms are handlers registered for exactly that path,
    and an entry without such a handler is the catch-all of a prefix-based fallback. -/
theorem PathRouter.new_entry {comps : List Comp} {fbs : List Fb} {r : PathRouter}
    (h : PathRouter.new comps fbs = .ok r) {l : Leaf} (hl : l ∈ r.leaves) :
    (∀ a ∈ l.arms, ∃ x ∈ handlersOf comps, x.path = l.path ∧ x.guard = .some a.2.2 ∧ a.2.1 = x.h) ∧
    ((∃ x ∈ handlersOf comps, x.path = l.path) ∨
      (l.arms = [] ∧ ∃ fb ∈ fallbacksOf comps, ∃ pfx, fb.pfx = some pfx ∧ fallbackPath pfx = some l.path ∧ l.fb = .fallback fb.f)) := by
  obtain ⟨hfs, pfbs, b⟩ := PathRouter.new_leaves h
  have hlook := PathRouter.look_of_mem_leaves b.leaves hl
  rw [look_addCatchAlls, look_buildLeaves] at hlook
  rcases Option.or_eq_some_iff.mp hlook with hb | ⟨_, hc⟩
  · obtain ⟨⟨y, hy, hyp⟩, hfrom⟩ := fold_stepAt_sound hb
    refine ⟨fun a ha => ?_, Or.inl ⟨y.1, b.sub y hy, hyp⟩⟩
    obtain ⟨y, hy, h1, h2, h3⟩ := hfrom.arms a ha
    exact ⟨y.1, b.sub y hy, h1, h2, h3⟩
  · obtain ⟨q, hq, rfl⟩ := Option.map_eq_some_iff.mp hc
    obtain ⟨hqm, pfx, h1, h2⟩ := b.catchAlls q (List.mem_of_find?_eq_some hq)
    exact ⟨nofun, Or.inr ⟨rfl, q.fb, hqm, pfx, h1, h2, rfl⟩⟩

/-- `Allow` is exact: a fallback handler is shown exactly the methods of the guards registered for
    the entry's path. -/
theorem PathRouter.new_allowed {comps : List Comp} {fbs : List Fb} {r : PathRouter}
    (h : PathRouter.new comps fbs = .ok r) {l : Leaf} (hl : l ∈ r.leaves) {f : Option Nat} (hf : l.fb = .fallback f)
    (m : String) :
    m ∈ l.allowed ↔ ∃ x ∈ handlersOf comps, x.path = l.path ∧ ∃ ms, x.guard = .some ms ∧ m ∈ ms := by
  constructor
  · intro hm
    obtain ⟨a, ha, hma⟩ := List.mem_flatMap.mp hm
    obtain ⟨x, hx, hp, hg, _⟩ := (PathRouter.new_entry h hl).1 a ha
    exact ⟨x, hx, hp, a.2.2, hg, hma⟩
  · rintro ⟨x, hx, hp, ms, hg, hm⟩
    -- `x` answers `m` at this entry, whose fallback is no handler: through an arm
    have hadm : x.guard.admits m = true := by
      rw [hg]
      exact admits_some_iff.mpr hm
    have hd := PathRouter.new_designated h hx hadm hl hp.symm
    rcases leaf_dispatch_cases l m with ⟨a, ha, hc, _⟩ | ⟨_, e⟩
    · exact List.mem_flatMap.mpr ⟨a, ha, by simpa using hc⟩
    · rw [e, hf] at hd
      cases hd

theorem buildDomains_ok {comps : List Comp} {fbs : List Fb} {gs : List (List Char)} {ds : List DomainEntry}
    (h : buildDomains comps fbs gs = .ok ds) :
    ∀ d ∈ ds, ∃ cs, (∀ c ∈ cs, c ∈ comps) ∧ PathRouter.new cs fbs = .ok d.router := by
  induction gs generalizing ds with
  | nil =>
    obtain rfl : [] = ds := by simpa [buildDomains] using h
    exact fun d hd => nomatch hd
  | cons g gs ih =>
    unfold buildDomains at h
    split at h
    · cases h
    next r hr =>
      split at h
      · cases h
      next ds' hds =>
        cases h
        intro d hd
        rcases List.mem_cons.mp hd with e | e
        · subst e
          exact ⟨_, fun c hc => (List.mem_filter.mp hc).1, hr⟩
        · exact ih hds d e

theorem compile_ok {ops : List Op} {t : Table} (h : compile ops = .ok t) :
    (processBlueprint ops).err = none ∧ routerNew (processBlueprint ops) = .ok t := by
  unfold compile at h
  simp only at h
  split at h
  · cases h
  next herr => exact ⟨herr, h⟩

/-- What `Router::new` has checked when it answers, by the kind of table. -/
theorem routerNew_ok {st : St} {t : Table} (h : routerNew st = .ok t) :
    match t with
    | .agnostic r => PathRouter.new st.comps (fallbacksOf st.comps) = .ok r
    | .domains ds f =>
      (∃ gs, buildDomains st.comps (fallbacksOf st.comps) gs = .ok ds) ∧
      insertAllOk (ds.map (·.pattern)) 0 {} = true ∧
      (∃ fb, scopeFallback (fallbacksOf st.comps) [] = some fb ∧ fb.f = f) := by
  unfold routerNew at h
  simp only at h
  split at h
  · cases h
  · split at h
    · -- no handler has a domain guard: one path router
      split at h
      · cases h
      next r hr =>
        cases h
        exact hr
    · -- the top-level fallback, one path router per guard, then the two insertion orders
      split at h
      · cases h
      next fb hfb =>
        split at h
        · cases h
        next ds' hds =>
          split at h
          · cases h
          next hreg =>
            split at h
            · cases h
            next hrt =>
              cases h
              exact ⟨⟨_, hds⟩, by simpa using hrt, fb, hfb, rfl⟩

theorem compile_agnostic {ops : List Op} {r : PathRouter} (h : compile ops = .ok (.agnostic r)) :
    PathRouter.new (processBlueprint ops).comps (fallbacksOf (processBlueprint ops).comps) = .ok r :=
  routerNew_ok (compile_ok h).2

theorem compile_domains {ops : List Op} {ds : List DomainEntry} {f : Option Nat} (h : compile ops = .ok (.domains ds f)) :
    (∃ gs, buildDomains (processBlueprint ops).comps (fallbacksOf (processBlueprint ops).comps) gs = .ok ds) ∧
    insertAllOk (ds.map (·.pattern)) 0 {} = true ∧
    (∃ fb, scopeFallback (fallbacksOf (processBlueprint ops).comps) [] = some fb ∧ fb.f = f) :=
  routerNew_ok (compile_ok h).2

end Pxv.Router
