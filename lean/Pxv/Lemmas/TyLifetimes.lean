import Pxv.Lemmas.TyCanon
/-! Rewriting lifetime names (`set_implicit_lifetimes`, `rename_lifetime_parameters`) never changes
the canonical form, unless it introduces `'static`; `set_implicit_lifetimes` leaves no implicit
lifetime behind, unless asked to write `'_`. -/
namespace Pxv.Ty

theorem canonLt_fromName {x : String} (hx : stripQuote x ≠ "static") (l : Lt) (hl : l ≠ .static)
    (n : Nat) : canonLt (Lt.fromName x) n = canonLt l n := by
  have hf : Lt.fromName x ≠ .static := by
    unfold Lt.fromName
    simp only [hx, if_false]
    split <;> nofun
  rw [canonLt_of_ne_static hf, canonLt_of_ne_static hl]

theorem canonGLt_fromName {x : String} (hx : stripQuote x ≠ "static") (l : GLt)
    (hl : l ≠ .static) (n : Nat) : canonGLt (GLt.fromName x) n = canonGLt l n := by
  have hf : GLt.fromName x ≠ .static := by
    unfold GLt.fromName
    simp only [hx, if_false]
    split <;> nofun
  rw [canonGLt_of_ne_static hf, canonGLt_of_ne_static hl]

theorem canonLt_setImplicit {x : String} (hx : stripQuote x ≠ "static") (l : Lt) (n : Nat) :
    canonLt (setImplicitLt x l) n = canonLt l n := by
  cases l with
  | static => rfl
  | named a => rfl
  | inferred => exact canonLt_fromName hx _ (by simp) n
  | elided => exact canonLt_fromName hx _ (by simp) n

theorem canonGLt_setImplicit {x : String} (hx : stripQuote x ≠ "static") (l : GLt) (n : Nat) :
    canonGLt (setImplicitGLt x l) n = canonGLt l n := by
  cases l with
  | static => rfl
  | named a => rfl
  | inferred => exact canonGLt_fromName hx _ (by simp) n

mutual
theorem canonGo_setImplicit {x : String} (hx : stripQuote x ≠ "static") : ∀ (t : Ty) (s : CSt),
    canonGo (setImplicit x t) s = canonGo t s
  | .path al p i bs as, s => by simp only [setImplicit, canonGo, canonArgs_setImplicit hx as s]
  | .ref m l t, s => by
      simp only [setImplicit, canonGo, canonLt_setImplicit hx l s.lt, canonGo_setImplicit hx t]
  | .tuple es, s => by simp only [setImplicit, canonGo, canonTys_setImplicit hx es s]
  | .scalar _, s => by simp only [setImplicit]
  | .slice e, s => by simp only [setImplicit, canonGo, canonGo_setImplicit hx e s]
  | .array e n, s => by simp only [setImplicit, canonGo, canonGo_setImplicit hx e s]
  | .rawPtr m t, s => by simp only [setImplicit, canonGo, canonGo_setImplicit hx t s]
  | .fnPtr ins out abi u, s => by
      simp only [setImplicit, canonGo, canonIns_setImplicit hx ins s, canonO_setImplicit hx out]
  | .generic _, s => by simp only [setImplicit]
theorem canonArgs_setImplicit {x : String} (hx : stripQuote x ≠ "static") : ∀ (a : GArgs) (s : CSt),
    canonArgs (setImplicitArgs x a) s = canonArgs a s
  | .nil, s => by simp only [setImplicitArgs]
  | .ty t r, s => by
      simp only [setImplicitArgs, canonArgs, canonGo_setImplicit hx t s, canonArgs_setImplicit hx r]
  | .lt l r, s => by
      simp only [setImplicitArgs, canonArgs, canonGLt_setImplicit hx l s.lt,
        canonArgs_setImplicit hx r]
  | .const v r, s => by
      simp only [setImplicitArgs, canonArgs, canonArgs_setImplicit hx r s]
theorem canonTys_setImplicit {x : String} (hx : stripQuote x ≠ "static") : ∀ (a : Tys) (s : CSt),
    canonTys (setImplicitTys x a) s = canonTys a s
  | .nil, s => by simp only [setImplicitTys]
  | .cons t r, s => by
      simp only [setImplicitTys, canonTys, canonGo_setImplicit hx t s, canonTys_setImplicit hx r]
theorem canonIns_setImplicit {x : String} (hx : stripQuote x ≠ "static") : ∀ (a : FnIns) (s : CSt),
    canonIns (setImplicitIns x a) s = canonIns a s
  | .nil, s => by simp only [setImplicitIns]
  | .cons n t r, s => by
      simp only [setImplicitIns, canonIns, canonGo_setImplicit hx t s, canonIns_setImplicit hx r]
theorem canonO_setImplicit {x : String} (hx : stripQuote x ≠ "static") : ∀ (a : OTy) (s : CSt),
    canonO (setImplicitO x a) s = canonO a s
  | .none, s => by simp only [setImplicitO]
  | .some t, s => by simp only [setImplicitO, canonO, canonGo_setImplicit hx t s]
end

/-- No renaming target is `'static`. -/
def NoStaticTargets (m : List (String × String)) : Prop := ∀ k v, mget m k = some v → stripQuote v ≠ "static"

theorem canonLt_rename {m : List (String × String)} (hm : NoStaticTargets m) (l : Lt) (n : Nat) :
    canonLt (renameLt m l) n = canonLt l n := by
  cases l with
  | static => rfl
  | inferred => rfl
  | elided => rfl
  | named a =>
    simp only [renameLt]
    cases h : mget m a with
    | none => rfl
    | some new => exact canonLt_fromName (hm a new h) _ (by simp) n

theorem canonGLt_rename {m : List (String × String)} (hm : NoStaticTargets m) (l : GLt) (n : Nat) :
    canonGLt (renameGLt m l) n = canonGLt l n := by
  cases l with
  | static => rfl
  | inferred => rfl
  | named a =>
    simp only [renameGLt]
    cases h : mget m a with
    | none => rfl
    | some new => exact canonGLt_fromName (hm a new h) _ (by simp) n

mutual
theorem canonGo_rename {m : List (String × String)} (hm : NoStaticTargets m) : ∀ (t : Ty) (s : CSt),
    canonGo (renameLts m t) s = canonGo t s
  | .path al p i bs as, s => by simp only [renameLts, canonGo, canonArgs_rename hm as s]
  | .ref mu l t, s => by
      simp only [renameLts, canonGo, canonLt_rename hm l s.lt, canonGo_rename hm t]
  | .tuple es, s => by simp only [renameLts, canonGo, canonTys_rename hm es s]
  | .scalar _, s => by simp only [renameLts]
  | .slice e, s => by simp only [renameLts, canonGo, canonGo_rename hm e s]
  | .array e n, s => by simp only [renameLts, canonGo, canonGo_rename hm e s]
  | .rawPtr mu t, s => by simp only [renameLts, canonGo, canonGo_rename hm t s]
  | .fnPtr ins out abi u, s => by
      simp only [renameLts, canonGo, canonIns_rename hm ins s, canonO_rename hm out]
  | .generic _, s => by simp only [renameLts]
theorem canonArgs_rename {m : List (String × String)} (hm : NoStaticTargets m) : ∀ (a : GArgs) (s : CSt),
    canonArgs (renameLtsArgs m a) s = canonArgs a s
  | .nil, s => by simp only [renameLtsArgs]
  | .ty t r, s => by
      simp only [renameLtsArgs, canonArgs, canonGo_rename hm t s, canonArgs_rename hm r]
  | .lt l r, s => by
      simp only [renameLtsArgs, canonArgs, canonGLt_rename hm l s.lt, canonArgs_rename hm r]
  | .const v r, s => by simp only [renameLtsArgs, canonArgs, canonArgs_rename hm r s]
theorem canonTys_rename {m : List (String × String)} (hm : NoStaticTargets m) : ∀ (a : Tys) (s : CSt),
    canonTys (renameLtsTys m a) s = canonTys a s
  | .nil, s => by simp only [renameLtsTys]
  | .cons t r, s => by
      simp only [renameLtsTys, canonTys, canonGo_rename hm t s, canonTys_rename hm r]
theorem canonIns_rename {m : List (String × String)} (hm : NoStaticTargets m) : ∀ (a : FnIns) (s : CSt),
    canonIns (renameLtsIns m a) s = canonIns a s
  | .nil, s => by simp only [renameLtsIns]
  | .cons n t r, s => by
      simp only [renameLtsIns, canonIns, canonGo_rename hm t s, canonIns_rename hm r]
theorem canonO_rename {m : List (String × String)} (hm : NoStaticTargets m) : ∀ (a : OTy) (s : CSt),
    canonO (renameLtsO m a) s = canonO a s
  | .none, s => by simp only [renameLtsO]
  | .some t, s => by simp only [renameLtsO, canonO, canonGo_rename hm t s]
end

theorem fromName_explicit {x : String} (hx : stripQuote x ≠ "_") :
    Lt.fromName x ≠ .inferred ∧ Lt.fromName x ≠ .elided ∧ GLt.fromName x ≠ .inferred := by
  unfold Lt.fromName GLt.fromName
  simp only [hx, if_false]
  by_cases h : stripQuote x = "static" <;> simp [h]

theorem setImplicitLt_explicit {x : String} (hx : stripQuote x ≠ "_") (l : Lt) :
    setImplicitLt x l ≠ .inferred ∧ setImplicitLt x l ≠ .elided := by
  have hf := fromName_explicit hx
  cases l with
  | inferred => exact ⟨hf.1, hf.2.1⟩
  | elided => exact ⟨hf.1, hf.2.1⟩
  | _ => exact ⟨nofun, nofun⟩

theorem setImplicitGLt_explicit {x : String} (hx : stripQuote x ≠ "_") (l : GLt) :
    setImplicitGLt x l ≠ .inferred := by
  cases l with
  | inferred => exact (fromName_explicit hx).2.2
  | _ => nofun

/-- A reference whose own lifetime is written out has an implicit lifetime only below it. -/
theorem hasImplicit_ref {l : Lt} (h1 : l ≠ .inferred) (h2 : l ≠ .elided) (m : Bool) (t : Ty) :
    hasImplicit (.ref m l t) = hasImplicit t := by
  cases l with
  | inferred => exact absurd rfl h1
  | elided => exact absurd rfl h2
  | static | named _ => rfl

theorem hasImplicitArgs_lt {l : GLt} (h : l ≠ .inferred) (r : GArgs) :
    hasImplicitArgs (.lt l r) = hasImplicitArgs r := by
  cases l with
  | inferred => exact absurd rfl h
  | static | named _ => rfl

mutual
theorem hasImplicit_setImplicit {x : String} (hx : stripQuote x ≠ "_") : ∀ (t : Ty),
    hasImplicit (setImplicit x t) = false
  | .path al p i bs as => by simp only [setImplicit, hasImplicit, hasImplicitArgs_setImplicit hx as]
  | .ref m l t => by
      obtain ⟨h1, h2⟩ := setImplicitLt_explicit hx l
      rw [setImplicit, hasImplicit_ref h1 h2, hasImplicit_setImplicit hx t]
  | .tuple es => by simp only [setImplicit, hasImplicit, hasImplicitTys_setImplicit hx es]
  | .scalar _ => by simp only [setImplicit, hasImplicit]
  | .slice e => by simp only [setImplicit, hasImplicit, hasImplicit_setImplicit hx e]
  | .array e n => by simp only [setImplicit, hasImplicit, hasImplicit_setImplicit hx e]
  | .rawPtr m t => by simp only [setImplicit, hasImplicit, hasImplicit_setImplicit hx t]
  | .fnPtr ins out abi u => by
      simp only [setImplicit, hasImplicit, hasImplicitIns_setImplicit hx ins,
        hasImplicitO_setImplicit hx out, Bool.or_self]
  | .generic _ => by simp only [setImplicit, hasImplicit]
theorem hasImplicitArgs_setImplicit {x : String} (hx : stripQuote x ≠ "_") : ∀ (a : GArgs),
    hasImplicitArgs (setImplicitArgs x a) = false
  | .nil => by simp only [setImplicitArgs, hasImplicitArgs]
  | .ty t r => by
      simp only [setImplicitArgs, hasImplicitArgs, hasImplicit_setImplicit hx t,
        hasImplicitArgs_setImplicit hx r, Bool.or_self]
  | .lt l r => by
      rw [setImplicitArgs, hasImplicitArgs_lt (setImplicitGLt_explicit hx l),
        hasImplicitArgs_setImplicit hx r]
  | .const v r => by simp only [setImplicitArgs, hasImplicitArgs, hasImplicitArgs_setImplicit hx r]
theorem hasImplicitTys_setImplicit {x : String} (hx : stripQuote x ≠ "_") : ∀ (a : Tys),
    hasImplicitTys (setImplicitTys x a) = false
  | .nil => by simp only [setImplicitTys, hasImplicitTys]
  | .cons t r => by
      simp only [setImplicitTys, hasImplicitTys, hasImplicit_setImplicit hx t,
        hasImplicitTys_setImplicit hx r, Bool.or_self]
theorem hasImplicitIns_setImplicit {x : String} (hx : stripQuote x ≠ "_") : ∀ (a : FnIns),
    hasImplicitIns (setImplicitIns x a) = false
  | .nil => by simp only [setImplicitIns, hasImplicitIns]
  | .cons n t r => by
      simp only [setImplicitIns, hasImplicitIns, hasImplicit_setImplicit hx t,
        hasImplicitIns_setImplicit hx r, Bool.or_self]
theorem hasImplicitO_setImplicit {x : String} (hx : stripQuote x ≠ "_") : ∀ (a : OTy),
    hasImplicitO (setImplicitO x a) = false
  | .none => by simp only [setImplicitO, hasImplicitO]
  | .some t => by simp only [setImplicitO, hasImplicitO, hasImplicit_setImplicit hx t]
end

end Pxv.Ty
