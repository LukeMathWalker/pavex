import Pxv.Model.Rules
/-! The two graph algorithms of `Pxv/Model/Rules.lean`: the worklist `closure` processes exactly what is
    reachable from the roots; the depth-first `findCycles` reports something iff the graph has a cycle, and
    every report is a closed walk. -/
namespace Pxv.Rules

theorem pair_sublist {α} {l : List α} {k1 k2 : Nat} {a b : α} (hlt : k1 < k2)
    (h1 : l[k1]? = some a) (h2 : l[k2]? = some b) : [a, b].Sublist l := by
  rw [← List.take_append_drop k2 l]
  refine List.Sublist.append (l₁ := [a]) (r₁ := [b])
    (List.singleton_sublist.2 ?_) (List.singleton_sublist.2 ?_)
  · exact List.mem_of_getElem? (i := k1) (by rw [List.getElem?_take, if_pos hlt, h1])
  · exact List.mem_of_getElem? (i := 0) (by simpa using h2)

theorem two_le_length_filter {α} {p : α → Bool} {l : List α} {k1 k2 : Nat} {a b : α}
    (hlt : k1 < k2) (h1 : l[k1]? = some a) (h2 : l[k2]? = some b)
    (pa : p a = true) (pb : p b = true) : 2 ≤ (l.filter p).length := by
  simpa [pa, pb] using ((pair_sublist hlt h1 h2).filter p).length_le

theorem two_le_length_filterMap {α β} {f : α → Option β} {l : List α} {a b : α}
    (ha : a ∈ l) (hb : b ∈ l) (hab : a ≠ b)
    (hfa : (f a).isSome = true) (hfb : (f b).isSome = true) : 2 ≤ (l.filterMap f).length := by
  obtain ⟨i, hi⟩ := List.mem_iff_getElem?.1 ha
  obtain ⟨j, hj⟩ := List.mem_iff_getElem?.1 hb
  obtain ⟨y, hy⟩ := Option.isSome_iff_exists.1 hfa
  obtain ⟨z, hz⟩ := Option.isSome_iff_exists.1 hfb
  rcases Nat.lt_trichotomy i j with h | rfl | h
  · simpa [hy, hz] using ((pair_sublist h hi hj).filterMap f).length_le
  · exact absurd (Option.some.inj (hi.symm.trans hj)) hab
  · simpa [hy, hz] using ((pair_sublist h hj hi).filterMap f).length_le

theorem enq_cons (a : Nat) (next todo rem : List Nat) :
    enq (a :: next) todo rem =
      enq next (if rem.contains a && !todo.contains a then todo ++ [a] else todo) rem := rfl

theorem mem_enq {next todo rem : List Nat} {x : Nat} :
    x ∈ enq next todo rem ↔ x ∈ todo ∨ x ∈ next ∧ x ∈ rem := by
  induction next generalizing todo with
  | nil => simp [enq]
  | cons a next ih =>
    rw [enq_cons, ih, List.mem_cons]
    by_cases e : x = a
    · subst e
      by_cases h1 : x ∈ rem <;> by_cases h2 : x ∈ todo <;> simp [h1, h2]
    · split <;> simp [e]

theorem enq_nodup {next todo rem : List Nat} (h : todo.Nodup) : (enq next todo rem).Nodup := by
  induction next generalizing todo with
  | nil => exact h
  | cons a next ih =>
    rw [enq_cons]
    apply ih
    split
    · rename_i hc
      simp only [Bool.and_eq_true, Bool.not_eq_true', List.contains_eq_mem, decide_eq_true_eq,
        decide_eq_false_iff_not] at hc
      simpa [List.nodup_append, h] using fun x hx (e : x = a) => hc.2 (e ▸ hx)
    · exact h

/-- reachability through `succ` inside the node set `{0..n-1}`. -/
inductive ReachN (succ : Nat → List Nat) (n : Nat) : Nat → Nat → Prop
  | refl (a : Nat) : ReachN succ n a a
  | step {a b c : Nat} : ReachN succ n a b → c ∈ succ b → c < n → ReachN succ n a c

theorem ReachN.lt {succ : Nat → List Nat} {n r c : Nat} (hr : r < n) (h : ReachN succ n r c) :
    c < n := by
  cases h with
  | refl => exact hr
  | step _ _ hc => exact hc

structure WL (succ : Nat → List Nat) (n : Nat) (todo rem done : List Nat) : Prop where
  nodup : todo.Nodup
  sub : ∀ x ∈ todo, x ∈ rem
  cover : ∀ x, x < n → x ∈ rem ∨ x ∈ done
  closed : ∀ i ∈ done, ∀ j ∈ succ i, j < n → j ∈ done ∨ j ∈ todo

/-- One turn of the loop: `i` leaves the queue and the nodes still to be processed and is done; those
    of its successors that are still to be processed are queued. -/
theorem WL.step {succ : Nat → List Nat} {n i : Nat} {todo rem done : List Nat}
    (h : WL succ n (i :: todo) rem done) :
    WL succ n (enq (succ i) todo (rem.erase i)) (rem.erase i) (done ++ [i]) where
  nodup := enq_nodup h.nodup.of_cons
  sub x hx := by
    rcases mem_enq.1 hx with ht | ⟨_, hr⟩
    · have hne : x ≠ i := fun e => (List.nodup_cons.1 h.nodup).1 (e ▸ ht)
      exact (List.mem_erase_of_ne hne).2 (h.sub x (.tail _ ht))
    · exact hr
  cover x hx := by
    by_cases e : x = i
    · exact .inr (by simp [e])
    · exact (h.cover x hx).imp (List.mem_erase_of_ne e).2 (List.mem_append_left _)
  closed i' hi' j hj hjn := by
    rcases List.mem_append.1 hi' with hi' | hi'
    · -- `i'` was done before: `j` was done or queued, and the head of the queue is done now
      rcases h.closed i' hi' j hj hjn with hd | hq
      · exact .inl (List.mem_append_left _ hd)
      · rcases List.mem_cons.1 hq with rfl | hq
        · exact .inl (List.mem_append_right _ (List.mem_singleton_self j))
        · exact .inr (mem_enq.2 (.inl hq))
    · -- `j` is a successor of the node that has just been done: it is done, or `i` itself, or still
      -- to be processed, and then it has just been queued
      obtain rfl := List.mem_singleton.1 hi'
      rcases h.cover j hjn with hr | hd
      · by_cases e : j = i'
        · exact .inl (by simp [e])
        · exact .inr (mem_enq.2 (.inr ⟨hj, (List.mem_erase_of_ne e).2 hr⟩))
      · exact .inl (List.mem_append_left _ hd)

theorem closureLoop_spec {succ : Nat → List Nat} {n fuel : Nat} {todo rem done : List Nat}
    (h : WL succ n todo rem done) (hlen : rem.length ≤ fuel) :
    ∃ rem', WL succ n [] rem' (closureLoop succ fuel todo rem done) ∧
      ∀ x, x ∈ done ∨ x ∈ todo → x ∈ closureLoop succ fuel todo rem done := by
  induction fuel generalizing todo rem done with
  | zero =>
    rcases todo with _ | ⟨i, todo⟩
    · exact ⟨rem, h, fun x hx => hx.resolve_right List.not_mem_nil⟩
    · have := h.sub i List.mem_cons_self
      rw [List.eq_nil_of_length_eq_zero (Nat.le_zero.1 hlen)] at this
      cases this
  | succ fuel ih =>
    rcases todo with _ | ⟨i, todo⟩
    · exact ⟨rem, h, fun x hx => hx.resolve_right List.not_mem_nil⟩
    · have hi : i ∈ rem := h.sub i List.mem_cons_self
      have ⟨rem', hw, k⟩ := ih h.step (by rw [List.length_erase_of_mem hi]; omega)
      refine ⟨rem', hw, fun x hx => k x ?_⟩
      rcases hx with hx | hx
      · exact .inl (List.mem_append_left _ hx)
      · rcases List.mem_cons.1 hx with rfl | hx
        · exact .inl (List.mem_append_right _ (List.mem_singleton_self x))
        · exact .inr (mem_enq.2 (.inl hx))

theorem closureLoop_sub {succ : Nat → List Nat} {Good : Nat → Prop} {rem0 : List Nat}
    (hstep : ∀ i j, Good i → j ∈ succ i → j ∈ rem0 → Good j) {fuel : Nat} {todo rem done : List Nat}
    (hr : ∀ x ∈ rem, x ∈ rem0) (ht : ∀ x ∈ todo, Good x) (hd : ∀ x ∈ done, Good x) :
    ∀ x ∈ closureLoop succ fuel todo rem done, Good x := by
  induction fuel generalizing todo rem done with
  | zero => exact hd
  | succ fuel ih =>
    rcases todo with _ | ⟨i, todo⟩
    · exact hd
    · refine ih (fun x hx => hr x (List.mem_of_mem_erase hx)) (fun x hx => ?_) (fun x hx => ?_)
      · exact (mem_enq.1 hx).elim (fun h => ht x (.tail _ h))
          fun h => hstep i x (ht i List.mem_cons_self) h.1 (hr x (List.mem_of_mem_erase h.2))
      · rcases List.mem_append.1 hx with h | h
        · exact hd x h
        · exact List.mem_singleton.1 h ▸ ht i List.mem_cons_self

theorem mem_closure_iff {succ : Nat → List Nat} {n : Nat} {roots : List Nat} {c : Nat} :
    c ∈ closure succ n roots ↔ ∃ r ∈ roots, r < n ∧ ReachN succ n r c := by
  constructor
  · refine closureLoop_sub (Good := fun c => ∃ r ∈ roots, r < n ∧ ReachN succ n r c)
      (rem0 := List.range n)
      (fun i j ⟨r, hr, hn, h⟩ hj hjn => ⟨r, hr, hn, h.step hj (List.mem_range.1 hjn)⟩)
      (fun _ h => h) (fun x hx => ?_) (fun _ hx => (List.not_mem_nil hx).elim) c
    -- what is queued at the start is a root below `n`
    rcases mem_enq.1 hx with hnil | ⟨hroot, hrange⟩
    · exact (List.not_mem_nil hnil).elim
    · exact ⟨x, hroot, List.mem_range.1 hrange, .refl x⟩
  · rintro ⟨r, hr, hn, h⟩
    have hinit : WL succ n (enq roots [] (List.range n)) (List.range n) [] :=
      { nodup := enq_nodup List.nodup_nil
        sub := fun x hx => ((mem_enq.1 hx).resolve_left List.not_mem_nil).2
        cover := fun x hx => .inl (List.mem_range.2 hx)
        closed := fun _ hi => (List.not_mem_nil hi).elim }
    have ⟨_, hw, k⟩ := closureLoop_spec (fuel := n) hinit (by simp)
    induction h with
    | refl => exact k _ (.inr (mem_enq.2 (.inr ⟨hr, List.mem_range.2 hn⟩)))
    | step _ hc hcn ih => exact (hw.closed _ ih _ hc hcn).resolve_right List.not_mem_nil

/-- a path with at least one edge in the graph given by a successor function. -/
inductive PathS (succ : Nat → List Nat) : Nat → Nat → Prop
  | single {a b : Nat} : b ∈ succ a → PathS succ a b
  | cons {a b c : Nat} : b ∈ succ a → PathS succ b c → PathS succ a c

theorem PathS.trans {succ : Nat → List Nat} {a b c : Nat} (h : PathS succ a b) (h2 : PathS succ b c) :
    PathS succ a c := by
  induction h with
  | single e1 => exact .cons e1 h2
  | cons e1 _ ih => exact .cons e1 (ih h2)

theorem PathS.snoc {succ : Nat → List Nat} {a b c : Nat} (h : PathS succ a b) (e : c ∈ succ b) :
    PathS succ a c :=
  h.trans (.single e)

theorem PathS.transfer {f g : Nat → List Nat} {P : Nat → Prop}
    (hstep : ∀ a b, P a → b ∈ f a → b ∈ g a ∧ P b) {a c : Nat} (ha : P a) (h : PathS f a c) :
    PathS g a c := by
  induction h with
  | single e => exact .single (hstep _ _ ha e).1
  | cons e _ ih => exact .cons (hstep _ _ ha e).1 (ih (hstep _ _ ha e).2)

def OnCycle (adj : List (List Nat)) (v : Nat) : Prop := PathS (succOf adj) v v
def HasCycle (adj : List (List Nat)) : Prop := ∃ v, OnCycle adj v

theorem onCycle_succ {adj : List (List Nat)} {v : Nat} (h : OnCycle adj v) :
    ∃ w ∈ succOf adj v, OnCycle adj w := by
  unfold OnCycle at h
  cases h with
  | single e => exact ⟨v, e, .single e⟩
  | cons e p => exact ⟨_, e, p.snoc e⟩

theorem not_onCycle_of_ge {adj : List (List Nat)} {v : Nat} (h : adj.length ≤ v) :
    ¬ OnCycle adj v := by
  intro hc
  obtain ⟨w, hw, _⟩ := onCycle_succ hc
  simp [succOf, List.getD_eq_getElem?_getD, List.getElem?_eq_none h] at hw

def Chain (succ : Nat → List Nat) : List Nat → Prop
  | [] => True
  | a :: l => (∀ b, l.head? = some b → b ∈ succ a) ∧ Chain succ l

/-- a closed walk: non-empty, and followed by its first node it is a chain
    (so the last node points back at the first). -/
def IsCycle (adj : List (List Nat)) (c : List Nat) : Prop :=
  ∃ a, c.head? = some a ∧ Chain (succOf adj) (c ++ [a])

theorem chain_of_append {succ : Nat → List Nat} :
    ∀ (t l : List Nat), Chain succ (t ++ l) → Chain succ l
  | [], _, h => h
  | _ :: t, l, h => chain_of_append t l h.2

theorem chain_snoc_edge {succ : Nat → List Nat} {v w : Nat} (hw : w ∈ succ v) :
    ∀ (l : List Nat), Chain succ (l ++ [v]) → Chain succ (l ++ [v] ++ [w])
  | [], _ => ⟨by simpa using hw, by simp [Chain]⟩
  | a :: l, h => ⟨by cases l <;> simpa using h.1, chain_snoc_edge hw l h.2⟩

theorem head?_dropWhile_ne {w : Nat} :
    ∀ (l : List Nat), w ∈ l → (l.dropWhile (· != w)).head? = some w := by
  intro l h
  induction l with
  | nil => cases h
  | cons x l ih =>
    rw [List.dropWhile_cons]
    by_cases e : x = w
    · simp [e]
    · simpa [e] using ih ((List.mem_cons.1 h).resolve_left (Ne.symm e))

theorem chain_to_path {succ : Nat → List Nat} : ∀ (l : List Nat) (a b : Nat),
    Chain succ (a :: (l ++ [b])) → PathS succ a b
  | [], _, b, h => .single (h.1 b rfl)
  | x :: l, _, b, h => .cons (h.1 x rfl) (chain_to_path l x b h.2)

theorem IsCycle.onCycle {adj : List (List Nat)} {c : List Nat} (h : IsCycle adj c) :
    ∃ a, OnCycle adj a := by
  obtain ⟨a, ha, hch⟩ := h
  cases c with
  | nil => cases ha
  | cons x l => exact ⟨x, chain_to_path l x x (Option.some.inj ha ▸ hch)⟩

def Black (st : DfsState) (x : Nat) : Prop := x ∉ st.unvis ∧ x ∉ st.stack
def PInv (adj : List (List Nat)) (st : DfsState) : Prop := ∀ x, Black st x → ¬ OnCycle adj x

/-- one iteration of the loop over the neighbours in `dfs`. -/
def dfsStep (adj : List (List Nat)) (fuel : Nat) (st : DfsState) (w : Nat) : DfsState :=
  if st.unvis.contains w then dfs adj fuel w st
  else if st.stack.contains w then
    { st with cycles := st.cycles ++ [st.stack.dropWhile (· != w)] }
  else st

theorem dfs_succ_eq (adj : List (List Nat)) (fuel v : Nat) (st : DfsState) :
    dfs adj (fuel + 1) v st =
      let st2 := (succOf adj v).foldl (dfsStep adj fuel)
        { st with unvis := st.unvis.erase v, stack := st.stack ++ [v] }
      { st2 with stack := st2.stack.dropLast } := by
  rfl

structure DfsPre (fuel : Nat) (st : DfsState) : Prop where
  nodup : st.unvis.Nodup
  len : st.unvis.length ≤ fuel
  stack : ∀ x ∈ st.stack, x ∉ st.unvis

/-- What a call of `dfs`, or a run of its loop over the neighbours, guarantees. Finished nodes are known
    to stay off cycles only while nothing has been reported (`pinv`): completeness needs no more. -/
structure DfsPost (adj : List (List Nat)) (st st' : DfsState) : Prop where
  stack : st'.stack = st.stack
  unvis : st'.unvis.Sublist st.unvis
  mono : st'.cycles = [] → st.cycles = []
  pinv : st'.cycles = [] → PInv adj st → PInv adj st'
  sound : ∀ c ∈ st'.cycles, c ∈ st.cycles ∨ IsCycle adj c

theorem DfsPost.refl (adj : List (List Nat)) (st : DfsState) : DfsPost adj st st where
  stack := rfl
  unvis := .refl _
  mono := id
  pinv _ h := h
  sound _ := .inl

theorem DfsPost.trans {adj : List (List Nat)} {a b c : DfsState}
    (h1 : DfsPost adj a b) (h2 : DfsPost adj b c) : DfsPost adj a c where
  stack := h2.stack.trans h1.stack
  unvis := h2.unvis.trans h1.unvis
  mono h := h1.mono (h2.mono h)
  pinv h hP := h2.pinv h (h1.pinv (h2.mono h) hP)
  sound c h := (h2.sound c h).elim (h1.sound c) .inr

theorem DfsPost.pre {adj : List (List Nat)} {fuel : Nat} {st st' : DfsState}
    (h : DfsPost adj st st') (hp : DfsPre fuel st) : DfsPre fuel st' where
  nodup := hp.nodup.sublist h.unvis
  len := Nat.le_trans h.unvis.length_le hp.len
  stack x hx hx' := hp.stack x (h.stack ▸ hx) (h.unvis.subset hx')

/-- the contract of `dfs` at a given fuel, for a start node whose path from the root of the search is
    on the stack -/
def DfsSpec (adj : List (List Nat)) (fuel : Nat) : Prop :=
  ∀ v st, v ∈ st.unvis → DfsPre fuel st → Chain (succOf adj) (st.stack ++ [v]) →
    DfsPost adj st (dfs adj fuel v st) ∧ v ∉ (dfs adj fuel v st).unvis

theorem dfsStep_spec {adj : List (List Nat)} {fuel : Nat} (ihd : DfsSpec adj fuel) {st : DfsState}
    {w : Nat} (hp : DfsPre fuel st) (hch : Chain (succOf adj) (st.stack ++ [w])) :
    DfsPost adj st (dfsStep adj fuel st w) ∧ w ∉ (dfsStep adj fuel st w).unvis ∧
      ((dfsStep adj fuel st w).cycles = [] → w ∉ st.stack) := by
  unfold dfsStep
  by_cases h1 : w ∈ st.unvis
  · rw [if_pos (by simpa using h1)]
    have ⟨post, hw⟩ := ihd w st h1 hp hch
    exact ⟨post, hw, fun _ hs => hp.stack w hs h1⟩
  · rw [if_neg (by simpa using h1)]
    by_cases h2 : w ∈ st.stack
    · -- `w` is on the stack: the part of the stack from `w` on is reported, and it is a closed walk
      rw [if_pos (by simpa using h2)]
      have hne : st.cycles ++ [st.stack.dropWhile (· != w)] ≠ [] := by simp
      refine ⟨?_, h1, fun h => absurd h hne⟩
      refine
        { stack := rfl
          unvis := .refl _
          mono := fun h => absurd h hne
          pinv := fun h => absurd h hne
          sound := fun c hc => (List.mem_append.1 hc).imp_right fun hc => ?_ }
      obtain rfl := List.mem_singleton.1 hc
      obtain ⟨t, ht⟩ := List.dropWhile_suffix (l := st.stack) (· != w)
      have hch' : Chain (succOf adj) (t ++ (st.stack.dropWhile (· != w) ++ [w])) := by
        rw [← List.append_assoc, ht]
        exact hch
      exact ⟨w, head?_dropWhile_ne _ h2, chain_of_append t _ hch'⟩
    · rw [if_neg (by simpa using h2)]
      exact ⟨.refl adj st, h1, fun _ => h2⟩

/-- `step` is `dfsStep` for the loop over the neighbours; for the outer loop of `find_cycles` it is that
    loop's body, which agrees with `dfsStep` as long as the stack is empty. -/
theorem fold_spec {adj : List (List Nat)} {fuel : Nat} (ihd : DfsSpec adj fuel)
    (step : DfsState → Nat → DfsState) : ∀ (ws : List Nat) (st0 : DfsState),
      (∀ st w, st.stack = st0.stack → step st w = dfsStep adj fuel st w) →
      DfsPre fuel st0 → (∀ w ∈ ws, Chain (succOf adj) (st0.stack ++ [w])) →
      DfsPost adj st0 (ws.foldl step st0) ∧
      ∀ w ∈ ws, w ∉ (ws.foldl step st0).unvis ∧ ((ws.foldl step st0).cycles = [] → w ∉ st0.stack)
  | [], st0, _, _, _ => ⟨.refl adj st0, by simp⟩
  | w :: ws, st0, hs, hp, hch => by
    rw [List.foldl_cons, hs st0 w rfl]
    have ⟨p1, hw1, hw2⟩ := dfsStep_spec ihd hp (hch w List.mem_cons_self)
    have ⟨p2, hws⟩ := fold_spec ihd step ws _ (fun st w h => hs st w (h.trans p1.stack))
      (p1.pre hp) (fun x hx => p1.stack ▸ hch x (List.mem_cons_of_mem _ hx))
    refine ⟨p1.trans p2, fun x hx => ?_⟩
    rcases List.mem_cons.1 hx with rfl | hx
    · exact ⟨fun h => hw1 (p2.unvis.subset h), fun h => hw2 (p2.mono h)⟩
    · exact p1.stack ▸ hws x hx

theorem dfs_spec (adj : List (List Nat)) : ∀ fuel, DfsSpec adj fuel := by
  intro fuel
  induction fuel with
  | zero =>
    intro v st hv hp
    rw [List.eq_nil_of_length_eq_zero (Nat.le_zero.1 hp.len)] at hv
    cases hv
  | succ fuel ih =>
    intro v st hv hp hch
    rw [dfs_succ_eq]
    have hvnot : v ∉ st.unvis.erase v := fun h => (hp.nodup.mem_erase_iff.1 h).1 rfl
    -- the loop over the neighbours starts with `v` marked as visited and pushed
    have hp1 : DfsPre fuel { st with unvis := st.unvis.erase v, stack := st.stack ++ [v] } :=
      { nodup := hp.nodup.erase v
        len := by
          have hlen : st.unvis.length ≤ fuel + 1 := hp.len
          have herase : (st.unvis.erase v).length = st.unvis.length - 1 :=
            List.length_erase_of_mem hv
          show (st.unvis.erase v).length ≤ fuel
          omega
        stack := fun x hx hx' => by
          rcases List.mem_append.1 hx with h | h
          · exact hp.stack x h (List.mem_of_mem_erase hx')
          · exact hvnot (List.mem_singleton.1 h ▸ hx') }
    obtain ⟨post, hws⟩ := fold_spec ih (dfsStep adj fuel) (succOf adj v) _ (fun _ _ _ => rfl) hp1
      (fun w hw => chain_snoc_edge hw st.stack hch)
    generalize (succOf adj v).foldl (dfsStep adj fuel) _ = st2 at post hws
    have hstack : st2.stack = st.stack ++ [v] := post.stack
    refine ⟨?_, fun h => hvnot (post.unvis.subset h)⟩
    refine
      { stack := by simp [hstack]
        unvis := post.unvis.trans List.erase_sublist
        mono := post.mono
        pinv := fun hcy hP x hb => ?_
        sound := post.sound }
    -- a node finished before the call was black already; `v` is not on a cycle because none of its
    -- successors is
    have hP1 : PInv adj { st with unvis := st.unvis.erase v, stack := st.stack ++ [v] } := by
      intro y hy
      have hyv : y ≠ v := fun e => hy.2 (List.mem_append_right _ (List.mem_singleton.2 e))
      have hy1 : y ∉ st.unvis := fun h => hy.1 ((List.mem_erase_of_ne hyv).2 h)
      have hy2 : y ∉ st.stack := fun h => hy.2 (List.mem_append_left _ h)
      exact hP y ⟨hy1, hy2⟩
    have hP2 : PInv adj st2 := post.pinv hcy hP1
    have hx : x ∉ st.stack := by simpa [hstack] using hb.2
    by_cases e : x = v
    · intro hc
      obtain ⟨w, hw, hwc⟩ := onCycle_succ (e ▸ hc)
      have hwblack : Black st2 w := ⟨(hws w hw).1, hstack ▸ (hws w hw).2 hcy⟩
      exact hP2 w hwblack hwc
    · have hxblack : Black st2 x := ⟨hb.1, by simp [hstack, hx, e]⟩
      exact hP2 x hxblack

theorem findCyclesState_post (adj : List (List Nat)) :
    DfsPost adj ⟨List.range adj.length, [], []⟩ (findCyclesState adj) ∧
      ∀ v < adj.length, v ∉ (findCyclesState adj).unvis := by
  have hpre : DfsPre adj.length ⟨List.range adj.length, [], []⟩ :=
    { nodup := List.nodup_range, len := by simp, stack := fun _ hx => (List.not_mem_nil hx).elim }
  have ⟨post, h⟩ := fold_spec (dfs_spec adj adj.length)
    (fun st v => if st.unvis.contains v then dfs adj adj.length v st else st)
    (List.range adj.length) ⟨List.range adj.length, [], []⟩
    (fun st w h => by simp [dfsStep, show st.stack = [] from h]) hpre
    (fun w _ => ⟨by simp, trivial⟩)
  exact ⟨post, fun v hv => (h v (List.mem_range.2 hv)).1⟩

/-- **completeness of the cycle search**: if the graph has a cycle, `find_cycles` reports one. -/
theorem findCycles_complete (adj : List (List Nat)) (h : HasCycle adj) : findCycles adj ≠ [] := by
  intro hnil
  obtain ⟨v, hv⟩ := h
  have ⟨post, hvis⟩ := findCyclesState_post adj
  -- at the start nothing below `adj.length` is finished, and the other nodes have no edges; at the
  -- end, with nothing reported, every node is finished, `v` among them
  have hP0 : PInv adj ⟨List.range adj.length, [], []⟩ := fun x hb =>
    not_onCycle_of_ge (Nat.le_of_not_lt fun hx => hb.1 (List.mem_range.2 hx))
  have hvblack : Black (findCyclesState adj) v :=
    ⟨fun hmem => hvis v (List.mem_range.1 (post.unvis.subset hmem)) hmem, by simp [post.stack]⟩
  exact post.pinv hnil hP0 v hvblack hv

/-- **soundness of the cycle search**: every list `find_cycles` returns is a closed walk of the
    graph. -/
theorem findCycles_sound (adj : List (List Nat)) : ∀ c ∈ findCycles adj, IsCycle adj c :=
  fun c hc => ((findCyclesState_post adj).1.sound c hc).resolve_left List.not_mem_nil

theorem findCycles_ne_nil_iff (adj : List (List Nat)) : findCycles adj ≠ [] ↔ HasCycle adj := by
  constructor
  · intro h
    obtain ⟨c, hc⟩ := List.exists_mem_of_ne_nil _ h
    exact (findCycles_sound adj c hc).onCycle
  · exact findCycles_complete adj

end Pxv.Rules
