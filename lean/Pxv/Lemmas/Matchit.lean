import Pxv.Model.Matchit
/-! Lemmas for C07 about the matchit model. `atGo` (the semantic `at`) is three searches in order of
    precedence: static child, `{param}` child, catch-all. Each is right for its kind of route, and
    an earlier kind is more specific than a later one. -/
namespace Pxv.Matchit

theorem mem_advC {y : Char} {S : RSet} {i : Nat} {t : List Tok} :
    (i, t) ∈ advC y S ↔ (i, Tok.c y :: t) ∈ S := by
  simp only [advC, List.mem_filterMap]
  constructor
  · rintro ⟨⟨j, u⟩, hmem, h⟩
    cases u with
    | nil => cases h
    | cons x u =>
      cases x with
      | c x =>
        obtain ⟨rfl, rfl, rfl⟩ : x = y ∧ j = i ∧ u = t := by simpa using h
        exact hmem
      | par s => cases h
      | star => cases h
  · exact fun h => ⟨_, h, by simp⟩

theorem mem_advPar {suf : List Char} {S : RSet} {i : Nat} {t : List Tok} :
    (i, t) ∈ advPar suf S ↔ (i, Tok.par suf :: t) ∈ S := by
  simp only [advPar, List.mem_filterMap]
  constructor
  · rintro ⟨⟨j, u⟩, hmem, h⟩
    cases u with
    | nil => cases h
    | cons x u =>
      cases x with
      | c x => cases h
      | par s =>
        obtain ⟨rfl, rfl, rfl⟩ : s = suf ∧ j = i ∧ u = t := by simpa using h
        exact hmem
      | star => cases h
  · exact fun h => ⟨_, h, by simp⟩

theorem splitSeg_snd_le' {y : Char} (p : List Char) (h : y ≠ '/') :
    (splitSeg (y :: p)).2.length ≤ p.length := by
  unfold splitSeg
  simp only [List.dropWhile_cons, ne_eq, h, not_false_eq_true, decide_true, ↓reduceIte]
  exact length_dropWhile_le _ _

theorem splitSeg_slash (p : List Char) : splitSeg ('/' :: p) = ([], '/' :: p) := by
  simp [splitSeg]

/-- The `{param}` child in `Node::at`: commit to the longest suffix that fits the segment and go on
    (`rec`) below it with the rest of the path. -/
def parStep (S : RSet) (y : Char) (p : List Char) (rec : RSet → List Char → Option Nat) :
    Option Nat :=
  if y = '/' then none
  else match longest (parCands S (splitSeg (y :: p)).1 (splitSeg (y :: p)).2.isEmpty) with
    | none => none
    | some suf => rec (advPar suf S) (splitSeg (y :: p)).2

theorem parStep_congr {S : RSet} {y : Char} {p : List Char}
    {f g : RSet → List Char → Option Nat}
    (h : y ≠ '/' → ∀ suf,
      f (advPar suf S) (splitSeg (y :: p)).2 = g (advPar suf S) (splitSeg (y :: p)).2) :
    parStep S y p f = parStep S y p g := by
  unfold parStep
  split
  · rfl
  · next hy =>
    split
    · rfl
    · exact h hy _

theorem atFuel_cons (fuel : Nat) (S : RSet) (y : Char) (p : List Char) :
    atFuel (fuel + 1) S (y :: p) =
      ((atFuel fuel (advC y S) p).or (parStep S y p (atFuel fuel))).or (starHere S) := by
  simp only [atFuel]
  cases atFuel fuel (advC y S) p with
  | some i => rfl
  | none =>
    show (match parStep S y p (atFuel fuel) with | some i => some i | none => starHere S) = _
    cases parStep S y p (atFuel fuel) <;> rfl

theorem atFuel_mono : ∀ (n m : Nat) (S : RSet) (p : List Char), p.length < n → p.length < m →
    atFuel n S p = atFuel m S p := by
  intro n
  induction n with
  | zero => intro m S p h; cases h
  | succ n ih =>
    intro m S p hn hm
    cases m with
    | zero => cases hm
    | succ m =>
      cases p with
      | nil => rfl
      | cons y p =>
        rw [List.length_cons, Nat.succ_lt_succ_iff] at hn hm
        -- below a `{param}` the search goes on with a rest of `p`
        have hpar : parStep S y p (atFuel n) = parStep S y p (atFuel m) :=
          parStep_congr fun hy suf => by
            have hrest := splitSeg_snd_le' p hy
            exact ih m _ _ (by omega) (by omega)
        rw [atFuel_cons, atFuel_cons, ih m _ p hn hm, hpar]

theorem atGo_nil (S : RSet) : atGo S [] = endsHere S := rfl

theorem atGo_cons (S : RSet) (y : Char) (p : List Char) :
    atGo S (y :: p) = ((atGo (advC y S) p).or (parStep S y p atGo)).or (starHere S) := by
  -- `atGo` on the rest of the path starts with less fuel than is left below the `{param}`
  have hpar : parStep S y p (atFuel (p.length + 1)) = parStep S y p atGo :=
    parStep_congr fun hy suf => by
      have hrest := splitSeg_snd_le' p hy
      exact atFuel_mono (p.length + 1) ((splitSeg (y :: p)).2.length + 1) _ _ (by omega) (by omega)
  rw [atGo, List.length_cons, atFuel_cons, hpar]
  rfl

@[simp] theorem matchTok_nil_nil : matchTok [] [] = true := by simp [matchTok]
@[simp] theorem matchTok_nil_cons (y : Char) (p : List Char) : matchTok [] (y :: p) = false := by
  simp [matchTok]
@[simp] theorem matchTok_c_nil (x : Char) (ts : List Tok) : matchTok (.c x :: ts) [] = false := by
  simp [matchTok]
@[simp] theorem matchTok_c_cons (x y : Char) (ts : List Tok) (p : List Char) :
    matchTok (.c x :: ts) (y :: p) = (x == y && matchTok ts p) := by simp [matchTok]
theorem matchTok_par (suf : List Char) (ts : List Tok) (p : List Char) :
    matchTok (.par suf :: ts) p = (fits suf (splitSeg p).1 && matchTok ts (splitSeg p).2) := by
  cases p <;> simp [matchTok]
@[simp] theorem matchTok_star_nil (ts : List Tok) : matchTok (.star :: ts) [] = false := by
  simp [matchTok]
@[simp] theorem matchTok_star_cons (ts : List Tok) (y : Char) (p : List Char) :
    matchTok (.star :: ts) (y :: p) = true := by simp [matchTok]

theorem fits_nil_seg (suf : List Char) : fits suf [] = false := by simp [fits]

theorem matchTok_nil_right {t : List Tok} (h : matchTok t [] = true) : t = [] := by
  cases t with
  | nil => rfl
  | cons x ts =>
    cases x with
    | c x => simp at h
    | par s => rw [matchTok_par] at h; simp [splitSeg, fits_nil_seg] at h
    | star => simp at h

/-- A route goes on after a `{param}` exactly when the path does. -/
theorem matchTok_kind {t : List Tok} {rest : List Char} (h : matchTok t rest = true) :
    t.isEmpty = rest.isEmpty := by
  cases rest with
  | nil => rw [matchTok_nil_right h]; rfl
  | cons y p =>
    cases t with
    | nil => simp at h
    | cons x ts => simp

theorem fits_iff {suf seg : List Char} :
    fits suf seg = true ↔ suf.length < seg.length ∧ suf <:+ seg := by
  simp [fits, List.isSuffixOf_iff_suffix]

theorem NoNestedSuffix.advC {S : RSet} (h : NoNestedSuffix S) (y : Char) :
    NoNestedSuffix (advC y S) := by
  intro pre s1 s2 t1 t2 i j h1 h2
  rw [mem_advC] at h1 h2
  exact h (Tok.c y :: pre) s1 s2 t1 t2 i j h1 h2

theorem NoNestedSuffix.advPar {S : RSet} (h : NoNestedSuffix S) (s : List Char) :
    NoNestedSuffix (advPar s S) := by
  intro pre s1 s2 t1 t2 i j h1 h2
  rw [mem_advPar] at h1 h2
  exact h (Tok.par s :: pre) s1 s2 t1 t2 i j h1 h2

theorem NoNestedSuffix.same_suffix {S : RSet} (h : NoNestedSuffix S) {s1 s2 seg : List Char}
    {t1 t2 : List Tok} {i j : Nat}
    (h1 : (i, Tok.par s1 :: t1) ∈ S) (h2 : (j, Tok.par s2 :: t2) ∈ S)
    (f1 : fits s1 seg = true) (f2 : fits s2 seg = true) : s1 = s2 := by
  rcases h [] s1 s2 t1 t2 i j h1 h2 with e | ⟨n1, n2⟩
  · exact e
  · rcases List.suffix_or_suffix_of_suffix (fits_iff.mp f1).2 (fits_iff.mp f2).2 with a | a
    · exact absurd a n1
    · exact absurd a n2

theorem endsHere_some {S : RSet} {i : Nat} (h : endsHere S = some i) : (i, []) ∈ S := by
  obtain ⟨⟨j, t⟩, hf, rfl⟩ := Option.map_eq_some_iff.mp h
  obtain rfl : t = [] := by simpa using List.find?_some hf
  exact List.mem_of_find?_eq_some hf

theorem endsHere_none {S : RSet} (h : endsHere S = none) {j : Nat} {t : List Tok}
    (hm : (j, t) ∈ S) : t ≠ [] := by
  simpa using List.find?_eq_none.mp (Option.map_eq_none_iff.mp h) (j, t) hm

theorem starHere_some {S : RSet} {i : Nat} (h : starHere S = some i) :
    ∃ ts, (i, Tok.star :: ts) ∈ S := by
  obtain ⟨⟨j, t⟩, hf, rfl⟩ := Option.map_eq_some_iff.mp h
  have hp : startsWithStar t = true := by simpa using List.find?_some hf
  unfold startsWithStar at hp
  split at hp
  · exact ⟨_, List.mem_of_find?_eq_some hf⟩
  · cases hp

theorem starHere_none {S : RSet} (h : starHere S = none) {j : Nat} {ts : List Tok} :
    (j, Tok.star :: ts) ∉ S :=
  fun hm => by simpa [startsWithStar] using List.find?_eq_none.mp (Option.map_eq_none_iff.mp h) _ hm

theorem longest_none {l : List (List Char)} (h : longest l = none) : l = [] := by
  cases l with
  | nil => rfl
  | cons s ss =>
    simp only [longest] at h
    split at h
    · simp at h
    · split at h <;> simp at h

theorem longest_mem {l : List (List Char)} {s : List Char} (h : longest l = some s) : s ∈ l := by
  induction l generalizing s with
  | nil => simp [longest] at h
  | cons a as ih =>
    simp only [longest] at h
    split at h
    · obtain rfl : a = s := by simpa using h
      exact List.mem_cons_self
    next b hb =>
      split at h
      · obtain rfl : b = s := by simpa using h
        exact List.mem_cons_of_mem _ (ih hb)
      · obtain rfl : a = s := by simpa using h
        exact List.mem_cons_self

theorem mem_parCands {S : RSet} {seg : List Char} {last : Bool} {s : List Char} :
    s ∈ parCands S seg last ↔
      ∃ i t, (i, Tok.par s :: t) ∈ S ∧ fits s seg = true ∧ t.isEmpty = last := by
  simp only [parCands, List.mem_filterMap]
  constructor
  · rintro ⟨⟨i, u⟩, hm, h⟩
    cases u with
    | nil => cases h
    | cons x t =>
      cases x with
      | c x => cases h
      | par s' =>
        obtain ⟨⟨hf, hk⟩, rfl⟩ : (fits s' seg = true ∧ t.isEmpty = last) ∧ s' = s := by
          simpa using h
        exact ⟨i, t, hm, hf, hk⟩
      | star => cases h
  · rintro ⟨i, t, hm, hf, hk⟩
    exact ⟨_, hm, by simp [hf, hk]⟩

theorem specGE_c_c (y : Char) (a b : List Tok) : specGE (.c y :: a) (.c y :: b) = specGE a b := by
  simp [specGE]
theorem specGE_par_par (s : List Char) (a b : List Tok) :
    specGE (.par s :: a) (.par s :: b) = specGE a b := by
  simp [specGE]
theorem specGE_c_par (y : Char) (s : List Char) (a b : List Tok) :
    specGE (.c y :: a) (.par s :: b) = true := by
  simp [specGE, Tok.rank]
theorem specGE_c_star (y : Char) (a b : List Tok) : specGE (.c y :: a) (.star :: b) = true := by
  simp [specGE, Tok.rank]
theorem specGE_par_star (s : List Char) (a b : List Tok) :
    specGE (.par s :: a) (.star :: b) = true := by
  simp [specGE, Tok.rank]
theorem specGE_star_star (a b : List Tok) : specGE (.star :: a) (.star :: b) = true := by
  simp [specGE]

/-- `res` is a right answer of `at` on `p` for the routes `M` holds of: a matching route that is at
    least as specific as every matching one, or `none` when none matches. -/
def Answers (M : Nat → List Tok → Prop) (p : List Char) (res : Option Nat) : Prop :=
  (∀ i, res = some i → ∃ t, M i t ∧ matchTok t p = true ∧
      ∀ j t', M j t' → matchTok t' p = true → specGE t t' = true) ∧
  (res = none → ∀ j t', M j t' → matchTok t' p = false)

/-- Two searches, the first taking precedence: right for both sets of routes if every route of the
    first is at least as specific as every route of the second. -/
theorem Answers.or {M₁ M₂ : Nat → List Tok → Prop} {p : List Char} {r₁ r₂ : Option Nat}
    (h₁ : Answers M₁ p r₁) (h₂ : Answers M₂ p r₂)
    (hdom : ∀ i t j t', M₁ i t → M₂ j t' → specGE t t' = true) :
    Answers (fun i t => M₁ i t ∨ M₂ i t) p (r₁.or r₂) := by
  cases r₁ with
  | some i =>
    obtain ⟨t, hm, hmt, hmax⟩ := h₁.1 i rfl
    refine ⟨?_, nofun⟩
    rintro _ ⟨⟩
    exact ⟨t, .inl hm, hmt, fun j t' hm' hmt' =>
      hm'.elim (fun hm₁ => hmax j t' hm₁ hmt') (fun hm₂ => hdom i t j t' hm hm₂)⟩
  | none =>
    refine ⟨fun i hi => ?_, fun hn j t' hm' => hm'.elim (h₁.2 rfl j t') (h₂.2 hn j t')⟩
    obtain ⟨t, hm, hmt, hmax⟩ := h₂.1 i hi
    refine ⟨t, .inr hm, hmt, fun j t' hm' hmt' =>
      hm'.elim (fun hm₁ => ?_) (fun hm₂ => hmax j t' hm₂ hmt')⟩
    -- the first search found nothing, so no route of the first set matches
    rw [h₁.2 rfl j t' hm₁] at hmt'
    cases hmt'

theorem Answers.of_cover {M M' : Nat → List Tok → Prop} {p : List Char} {res : Option Nat}
    (h : Answers M' p res) (hsub : ∀ i t, M' i t → M i t)
    (hcov : ∀ j t', M j t' → matchTok t' p = true → M' j t') : Answers M p res := by
  refine ⟨fun i hi => ?_, fun hn j t' hm' => Bool.eq_false_iff.mpr fun hmt' => ?_⟩
  · obtain ⟨t, hm, hmt, hmax⟩ := h.1 i hi
    exact ⟨t, hsub i t hm, hmt, fun j t' hm' hmt' => hmax j t' (hcov j t' hm' hmt') hmt'⟩
  · rw [h.2 hn j t' (hcov j t' hm' hmt')] at hmt'
    cases hmt'

/-- What `at_spec` (C07) says of `atGo S p`. -/
def AtSpec (S : RSet) (p : List Char) : Prop := Answers (fun i t => (i, t) ∈ S) p (atGo S p)

theorem atSpec_nil (S : RSet) : AtSpec S [] := by
  unfold AtSpec
  rw [atGo_nil]
  -- only the empty route matches the empty path
  constructor
  · intro i h
    refine ⟨[], endsHere_some h, rfl, fun j t' _ hm' => ?_⟩
    rw [matchTok_nil_right hm']
    rfl
  · intro h j t' hm
    exact Bool.eq_false_iff.mpr fun hmt => endsHere_none h hm (matchTok_nil_right hmt)

theorem answers_c {S : RSet} {y : Char} {p : List Char} (ih : AtSpec (advC y S) p) :
    Answers (fun i t => (i, t) ∈ S ∧ ∃ x t', t = Tok.c x :: t') (y :: p)
      (atGo (advC y S) p) := by
  refine ⟨fun i hi => ?_, ?_⟩
  · obtain ⟨t, hm, hmt, hmax⟩ := ih.1 i hi
    refine ⟨.c y :: t, ⟨mem_advC.mp hm, y, t, rfl⟩, by simp [hmt], ?_⟩
    rintro j _ ⟨hm', x, t', rfl⟩ hmt'
    obtain ⟨rfl, hp⟩ : x = y ∧ matchTok t' p = true := by simpa using hmt'
    rw [specGE_c_c]
    exact hmax j t' (mem_advC.mpr hm') hp
  · rintro hn j _ ⟨hm', x, t', rfl⟩
    by_cases hx : x = y
    · subst hx
      simpa using ih.2 hn j t' (mem_advC.mpr hm')
    · simp [hx]

/-- `Node::at` commits to the longest suffix that fits the segment; under `NoNestedSuffix` every
    route whose suffix fits carries that suffix. -/
theorem answers_par {S : RSet} (hN : NoNestedSuffix S) {y : Char} {p : List Char}
    (ih : y ≠ '/' → ∀ suf, AtSpec (advPar suf S) (splitSeg (y :: p)).2) :
    Answers (fun i t => (i, t) ∈ S ∧ ∃ s t', t = Tok.par s :: t') (y :: p)
      (parStep S y p atGo) := by
  unfold parStep
  by_cases hy : y = '/'
  · subst hy
    refine ⟨nofun, ?_⟩
    rintro - j _ ⟨-, s, t', rfl⟩
    rw [matchTok_par, splitSeg_slash]
    simp [fits_nil_seg]
  · simp only [hy, ↓reduceIte]
    have hmatch : ∀ {s t'}, matchTok (Tok.par s :: t') (y :: p) = true →
        fits s (splitSeg (y :: p)).1 = true ∧ matchTok t' (splitSeg (y :: p)).2 = true := by
      intro s t' h
      rw [matchTok_par] at h
      simpa using h
    cases hl : longest (parCands S (splitSeg (y :: p)).1 (splitSeg (y :: p)).2.isEmpty) with
    | none =>
      refine ⟨nofun, ?_⟩
      rintro - j _ ⟨hm, s, t', rfl⟩
      refine Bool.eq_false_iff.mpr fun hmt => ?_
      have := mem_parCands.mpr ⟨j, t', hm, (hmatch hmt).1, matchTok_kind (hmatch hmt).2⟩
      rw [longest_none hl] at this
      cases this
    | some suf =>
      obtain ⟨i0, t0, hsufS, hsufFits, -⟩ := mem_parCands.mp (longest_mem hl)
      have sameSuf : ∀ {j s t'}, (j, Tok.par s :: t') ∈ S →
          matchTok (Tok.par s :: t') (y :: p) = true →
          s = suf ∧ (j, t') ∈ advPar suf S ∧ matchTok t' (splitSeg (y :: p)).2 = true := by
        intro j s t' hm hmt
        obtain rfl : s = suf := hN.same_suffix hm hsufS (hmatch hmt).1 hsufFits
        exact ⟨rfl, mem_advPar.mpr hm, (hmatch hmt).2⟩
      refine ⟨fun i hi => ?_, ?_⟩
      · obtain ⟨t, hm, hmt, hmax⟩ := (ih hy suf).1 i hi
        have hmt' : matchTok (.par suf :: t) (y :: p) = true := by
          rw [matchTok_par]
          simp [hsufFits, hmt]
        refine ⟨.par suf :: t, ⟨mem_advPar.mp hm, suf, t, rfl⟩, hmt', ?_⟩
        rintro j _ ⟨hm', s, t', rfl⟩ hmt'
        obtain ⟨rfl, ha, hb⟩ := sameSuf hm' hmt'
        rw [specGE_par_par]
        exact hmax j t' ha hb
      · rintro hn j _ ⟨hm', s, t', rfl⟩
        refine Bool.eq_false_iff.mpr fun hmt => ?_
        obtain ⟨rfl, ha, hb⟩ := sameSuf hm' hmt
        rw [(ih hy s).2 hn j t' ha] at hb
        cases hb

theorem answers_star {S : RSet} {y : Char} {p : List Char} :
    Answers (fun i t => (i, t) ∈ S ∧ ∃ t', t = Tok.star :: t') (y :: p) (starHere S) := by
  refine ⟨fun i hi => ?_, ?_⟩
  · obtain ⟨ts, hm⟩ := starHere_some hi
    refine ⟨_, ⟨hm, ts, rfl⟩, by simp, ?_⟩
    rintro j _ ⟨-, t', rfl⟩ -
    exact specGE_star_star _ _
  · rintro hn j _ ⟨hm', t', rfl⟩
    exact absurd hm' (starHere_none hn)

theorem atGo_spec_aux (n : Nat) :
    ∀ (S : RSet) (p : List Char), p.length ≤ n → NoNestedSuffix S → AtSpec S p := by
  induction n with
  | zero =>
    intro S p hp _
    obtain rfl : p = [] := List.eq_nil_of_length_eq_zero (Nat.le_zero.mp hp)
    exact atSpec_nil S
  | succ n ih =>
    intro S p hp hN
    cases p with
    | nil => exact atSpec_nil S
    | cons y p =>
      have hlen : p.length ≤ n := by simpa using hp
      unfold AtSpec
      rw [atGo_cons]
      have hc := answers_c (ih _ p hlen (hN.advC y))
      have hpar := answers_par hN (y := y) (p := p) fun hy suf =>
        ih _ _ (Nat.le_trans (splitSeg_snd_le' p hy) hlen) (hN.advPar suf)
      -- static before `{param}` before catch-all, and every route starts with one of the three
      refine ((hc.or hpar ?_).or answers_star ?_).of_cover ?_ ?_
      · rintro i _ j _ ⟨-, x, a, rfl⟩ ⟨-, s, b, rfl⟩
        exact specGE_c_par ..
      · rintro i _ j _ (⟨-, x, a, rfl⟩ | ⟨-, s, a, rfl⟩) ⟨-, b, rfl⟩
        · exact specGE_c_star ..
        · exact specGE_par_star ..
      · rintro i t ((h | h) | h) <;> exact h.1
      · intro j t' hm hmt
        match t', hmt with
        | .c x :: a, _ => exact .inl (.inl ⟨hm, x, a, rfl⟩)
        | .par s :: a, _ => exact .inl (.inr ⟨hm, s, a, rfl⟩)
        | .star :: a, _ => exact .inr ⟨hm, a, rfl⟩

/-- `at` is sound, complete and most-specific-first (the latter two need `NoNestedSuffix`). -/
theorem atGo_spec (S : RSet) (p : List Char) (hN : NoNestedSuffix S) : AtSpec S p :=
  atGo_spec_aux p.length S p (Nat.le_refl _) hN

theorem nestedSuffix_append (pre : List Tok) (s1 s2 : List Char) (t1 t2 : List Tok)
    (hne : s1 ≠ s2) :
    nestedSuffix (pre ++ Tok.par s1 :: t1) (pre ++ Tok.par s2 :: t2) =
      (s1.isSuffixOf s2 || s2.isSuffixOf s1) := by
  induction pre with
  | nil => simp [nestedSuffix, hne]
  | cons x pre ih =>
    cases x with
    | c ch => simp [nestedSuffix, ih]
    | par s => simp [nestedSuffix, ih]
    | star => simp [nestedSuffix, ih]

theorem noNestedSuffix_of_check {S : RSet} (h : noNestedSuffixB S = true) : NoNestedSuffix S := by
  intro pre s1 s2 t1 t2 i j h1 h2
  by_cases e : s1 = s2
  · exact Or.inl e
  · have := List.all_eq_true.mp (List.all_eq_true.mp h _ h1) _ h2
    rw [nestedSuffix_append pre s1 s2 t1 t2 e] at this
    exact Or.inr (by simpa [← List.isSuffixOf_iff_suffix] using this)

/-- A catch-all ends the route. -/
def StarLast : List Tok → Prop
  | [] => True
  | .star :: ts => ts = []
  | _ :: ts => StarLast ts

theorem toksGo_starLast : ∀ (fuel : Nat) (r : Rt), StarLast (toksGo fuel r) := by
  intro fuel
  induction fuel with
  | zero => intro r; simp [toksGo, StarLast]
  | succ n ih =>
    intro r
    cases r with
    | nil => simp [toksGo, StarLast]
    | cons b rest =>
      simp only [toksGo]
      split
      · split
        · simp [StarLast]
        · simp only [StarLast]; exact ih _
      · simp only [StarLast]; exact ih _

theorem toks_starLast (route : List Char) : StarLast (toks route) := by
  unfold toks
  split
  · exact toksGo_starLast _ _
  · simp [StarLast]

theorem specGE_antisymm : ∀ (a b : List Tok) (p : List Char),
    matchTok a p = true → matchTok b p = true →
    specGE a b = true → specGE b a = true → StarLast a → StarLast b → a = b := by
  intro a
  induction a with
  | nil =>
    intro b p ha hb _ _ _ _
    cases p with
    | nil => exact (matchTok_nil_right hb).symm
    | cons y p => simp at ha
  | cons x as ih =>
    intro b p ha hb h1 h2 sa sb
    cases b with
    | nil =>
      cases p with
      | nil => exact absurd (matchTok_nil_right ha) (by simp)
      | cons y p => simp at hb
    | cons y bs =>
      by_cases hxy : x = y
      · subst hxy
        cases x with
        | c ch =>
          cases p with
          | nil => simp at ha
          | cons z p =>
            simp at ha hb
            rw [specGE_c_c] at h1 h2
            rw [ih bs p ha.2 hb.2 h1 h2 sa sb]
        | par s =>
          rw [matchTok_par] at ha hb
          simp at ha hb
          rw [specGE_par_par] at h1 h2
          rw [ih bs _ ha.2 hb.2 h1 h2 sa sb]
        | star =>
          simp only [StarLast] at sa sb
          rw [sa, sb]
      · exfalso
        -- one of the two ranks higher unless the tokens are of the same kind; two static bytes,
        -- or two suffixes of the same length, that match the same path are equal
        cases x with
        | c ch =>
          cases y with
          | c ch' =>
            cases p with
            | nil => simp at ha
            | cons z p =>
              simp at ha hb
              exact hxy (by rw [ha.1, hb.1])
          | par s' => simp [specGE, Tok.rank] at h2
          | star => simp [specGE, Tok.rank] at h2
        | par s =>
          cases y with
          | c ch' => simp [specGE, Tok.rank] at h1
          | par s' =>
            have hss : s ≠ s' := fun e => hxy (e ▸ rfl)
            have h1' : s'.length ≤ s.length := by simpa [specGE, Tok.rank, hss] using h1
            have h2' : s.length ≤ s'.length := by simpa [specGE, Tok.rank, Ne.symm hss] using h2
            rw [matchTok_par] at ha hb
            simp at ha hb
            rcases List.suffix_or_suffix_of_suffix (fits_iff.mp ha.1).2 (fits_iff.mp hb.1).2
              with e | e
            · exact hss (e.eq_of_length (Nat.le_antisymm h2' h1'))
            · exact hss (e.eq_of_length (Nat.le_antisymm h1' h2')).symm
          | star => simp [specGE, Tok.rank] at h2
        | star =>
          cases y with
          | c ch' => simp [specGE, Tok.rank] at h1
          | par s' => simp [specGE, Tok.rank] at h1
          | star => exact hxy rfl

end Pxv.Matchit
