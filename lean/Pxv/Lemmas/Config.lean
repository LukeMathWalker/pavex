import Pxv.Model.Config
import Pxv.Lemmas.Basic
/-!
For C18: what `lookup` finds in a `merge` of sources, what `extractKey` and `extract` answer, and
the string functions behind `envKey` on variable names of the form `PX_<S1>__…__<Sn>`.
-/
namespace Pxv.Config

/-- Some leaf of `b` sits strictly above or below `k`: `b` disagrees with a leaf at `k` on the
    *shape* of the dictionary. -/
def clash (k : Path) (b : List (Path × Leaf)) : Bool := b.any (fun e => e.1 != k && related k e.1)

theorem lookup_append (k : Path) (a b : List (Path × Leaf)) :
    lookup k (a ++ b) = match lookup k a with
      | some v => some v
      | none => lookup k b := by
  fun_induction lookup k a with
  | case1 => rfl
  | case2 v rest => simp [lookup]
  | case3 k' v rest hne ih => simpa [lookup, hne] using ih

theorem lookup_filter_key (P : Path → Bool) (k : Path) (a : List (Path × Leaf)) :
    lookup k (a.filter (fun e => P e.1)) = if P k then lookup k a else none := by
  induction a with
  | nil => simp [lookup]
  | cons p a ih =>
    obtain ⟨k', v⟩ := p
    by_cases hk : k' = k
    · subst hk
      cases hp : P k' <;> simp [hp, lookup, ih]
    · cases hp : P k' <;> simp [hp, lookup, hk, ih]

theorem isPrefix_refl (p : Path) : isPrefix p p = true := by
  induction p with
  | nil => rfl
  | cons a p ih => simp [isPrefix, ih]

theorem related_self (p : Path) : related p p = true := by simp [related, isPrefix_refl]

theorem lookup_none_any {k : Path} {b : List (Path × Leaf)} (h : lookup k b = none) :
    b.any (fun e => related k e.1) = clash k b := by
  fun_induction lookup k b with
  | case1 => rfl
  | case2 v rest => cases h
  | case3 k' v rest hne ih =>
    simp only [List.any_cons, clash, bne_iff_ne.mpr hne, Bool.true_and]
    exact congrArg _ (ih h)

/-- `merge` at one key: the later source's leaf if it has one; otherwise the earlier source's leaf,
    unless the later source reshapes the dictionary around that key. -/
theorem lookup_merge_general (a b : List (Path × Leaf)) (k : Path) :
    lookup k (merge a b) = match lookup k b with
      | some v => some v
      | none => if clash k b then none else lookup k a := by
  rw [merge, lookup_append]
  cases hb : lookup k b with
  | some v => rfl
  | none =>
    simp only []
    rw [lookup_filter_key (fun q => !(b.any (fun e' => related q e'.1))) k a, lookup_none_any hb]
    cases clash k b <;> rfl

/-- C18 (1) for any number of sources merged in turn over `acc`: at a key around which no source
    reshapes the dictionary, the last source that defines it answers. -/
theorem lookup_foldl_merge (k : Path) (srcs : List (List (Path × Leaf))) :
    ∀ (acc : List (Path × Leaf)), (∀ s ∈ srcs, clash k s = false) →
    lookup k (srcs.foldl merge acc)
      = srcs.foldl (fun o s => (lookup k s).or o) (lookup k acc) := by
  induction srcs with
  | nil => intros; rfl
  | cons s srcs ih =>
    intro acc h
    rw [List.foldl_cons, List.foldl_cons, ih _ fun s' hs' => h s' (List.mem_cons_of_mem _ hs'),
      lookup_merge_general, h s (List.mem_cons_self ..)]
    cases lookup k s <;> rfl

theorem lookup_merge_some {a b : List (Path × Leaf)} {k : Path} {v : Leaf}
    (h : lookup k (merge a b) = some v) :
    lookup k b = some v ∨ (lookup k b = none ∧ lookup k a = some v) := by
  rw [lookup_merge_general] at h
  cases hb : lookup k b with
  | some w =>
    simp only [hb] at h
    exact Or.inl h
  | none =>
    simp only [hb] at h
    split at h
    · cases h
    · exact Or.inr ⟨rfl, h⟩

theorem merge_nil_right (a : List (Path × Leaf)) : merge a [] = a := by
  simp [merge]

theorem extractKey_error {cfg : List (Path × Leaf)} {k : Key} {e : Err}
    (h : extractKey cfg k = .error e) : e = .extract := by
  revert h
  fun_cases extractKey cfg k
  -- the failing branches: a clash, a leaf that does not convert, a required key without a leaf
  case case1 | case3 | case4 =>
    rintro ⟨⟩
    rfl
  case case2 | case5 => nofun

theorem extractKey_ok {cfg : List (Path × Leaf)} {k : Key} {v : Val}
    (h : extractKey cfg k = .ok v) :
    match lookup k.path cfg with
    | some l => convert k.ty l = some v
    | none => v = .none ∧ k.required = false := by
  revert h
  fun_cases extractKey cfg k
  -- the two branches that answer `.ok`: a leaf that converts, and no leaf for an optional key
  case case2 _ l hl v' hv =>
    rintro ⟨⟩
    rwa [hl]
  case case5 _ hl hr =>
    rintro ⟨⟩
    rw [hl]
    exact ⟨rfl, Bool.eq_false_iff.mpr hr⟩
  case case1 | case3 | case4 => nofun

theorem extractKey_missing {cfg : List (Path × Leaf)} {k : Key} (hl : lookup k.path cfg = none)
    (hr : k.required = true) : extractKey cfg k = .error .extract := by
  simp [extractKey, hl, hr]

theorem extract_error {schema : List Key} {cfg : List (Path × Leaf)} {e : Err}
    (h : extract schema cfg = .error e) : e = .extract := by
  fun_induction extract schema cfg with
  | case1 | case3 => cases h
  | case2 k ks e' hk =>
    cases h
    exact extractKey_error hk
  | case4 k ks v hk e' hr ih =>
    cases h
    exact ih hr

theorem extract_fails_of_key {schema : List Key} {cfg : List (Path × Leaf)} {k : Key} {e : Err}
    (hm : k ∈ schema) (hk : extractKey cfg k = .error e) :
    extract schema cfg = .error .extract := by
  fun_induction extract schema cfg with
  | case1 => cases hm
  | case2 k' ks e' hk' => rw [extractKey_error hk']
  | case3 k' ks v hk' r hr ih =>
    rcases List.mem_cons.mp hm with rfl | hm'
    · rw [hk] at hk'
      cases hk'
    · rw [hr] at ih
      cases ih hm'
  | case4 k' ks v hk' e' hr ih => rw [extract_error hr]

def lookupV (k : Path) : List (Path × Val) → Option Val
  | [] => none
  | (k', v) :: rest => if k' = k then some v else lookupV k rest

theorem extract_ok_key {schema : List Key} {cfg : List (Path × Leaf)} {vals : List (Path × Val)}
    (h : extract schema cfg = .ok vals) (hn : (schema.map (·.path)).Nodup) :
    ∀ k ∈ schema, ∃ v, extractKey cfg k = .ok v ∧ lookupV k.path vals = some v := by
  fun_induction extract schema cfg generalizing vals with
  | case1 => nofun
  | case2 | case4 => cases h
  | case3 k' ks v' hk' r hr ih =>
    cases h
    rw [List.map_cons, List.nodup_cons] at hn
    intro k hk
    rcases List.mem_cons.mp hk with rfl | hm
    · exact ⟨v', hk', by simp [lookupV]⟩
    · obtain ⟨v, h1, h2⟩ := ih hr hn.2 k hm
      have : k'.path ≠ k.path := fun e => hn.1 (e ▸ List.mem_map_of_mem hm)
      exact ⟨v, h1, by rw [lookupV, if_neg this, h2]⟩

theorem load_of_profile {inp : Input} {profile : List Nat}
    (hsel : selectProfile inp.known inp.explicit inp.env = .ok profile) :
    load inp =
      if inp.strict
          && (merge (merge (sources inp profile).1 (sources inp profile).2.1)
                (sources inp profile).2.2).any
              (fun e => !(inp.schema.any (fun k => k.path = e.1))) then .error .extract
      else extract inp.schema
        (merge (merge (sources inp profile).1 (sources inp profile).2.1)
          (sources inp profile).2.2) := by
  simp only [load, hsel]

theorem envFold_filter (keep : List Nat × List Nat → Bool)
    (hk : ∀ v, keep v = false → envKey v.1 = none) (vars : List (List Nat × List Nat)) :
    ∀ d, envFold vars d = envFold (vars.filter keep) d := by
  induction vars with
  | nil => intro d; rfl
  | cons v rest ih =>
    intro d
    cases h : keep v with
    | false =>
      rw [List.filter_cons_of_neg (by simp [h]), envFold, hk v h]
      exact ih d
    | true =>
      rw [List.filter_cons_of_pos h, envFold, envFold]
      cases envKey v.1 <;> exact ih _

/-- The second equation of `replaceDU`: a byte that does not start a `__` is copied. -/
theorem replaceDU_cons {b : Nat} {l : List Nat} (h : b ≠ 95 ∨ l.head? ≠ some 95) :
    replaceDU (b :: l) = b :: replaceDU l :=
  replaceDU.eq_2 b l fun rest hb hl => by
    subst hb hl
    simp at h

theorem replaceDU_no_underscore (l : List Nat) (h : ∀ b ∈ l, b ≠ 95) : replaceDU l = l := by
  induction l with
  | nil => rfl
  | cons b rest ih =>
    rw [replaceDU_cons (.inl (h b (List.mem_cons_self ..))),
      ih fun x hx => h x (List.mem_cons_of_mem _ hx)]

/-- Lower-casing maps only `_` to `_`: a name that lowers to something without `_` has none. -/
theorem replaceDU_of_lowerAll {l m : List Nat} (h : lowerAll l = m) (hm : 95 ∉ m) :
    replaceDU l = l :=
  replaceDU_no_underscore l fun b hb e => hm (h ▸ List.mem_map.mpr ⟨b, hb, by rw [e]; rfl⟩)

/-- No two adjacent underscores. -/
def noDU : List Nat → Bool
  | 95 :: 95 :: _ => false
  | _ :: rest => noDU rest
  | [] => true

theorem noDU_cons {b : Nat} {l : List Nat} (h : noDU (b :: l) = true) :
    (b ≠ 95 ∨ l.head? ≠ some 95) ∧ noDU l = true := by
  cases l with
  | nil => exact ⟨.inr nofun, rfl⟩
  | cons c r =>
    unfold noDU at h
    split at h
    · cases h
    · next hne heq =>
      cases heq
      refine ⟨?_, h⟩
      by_cases hb : b = 95
      · exact .inr fun hc => hne r hb (by rw [Option.some.inj hc])
      · exact .inl hb
    · next heq => cases heq

/-- The last hypothesis: the seam between `s` and `rest` makes no `__` either. -/
theorem replaceDU_noDU_append : ∀ (s rest : List Nat), noDU s = true →
    (s.getLast? ≠ some 95 ∨ rest.head? ≠ some 95) →
    replaceDU (s ++ rest) = s ++ replaceDU rest := by
  intro s
  induction s with
  | nil => intros; rfl
  | cons b s ih =>
    intro rest hn hl
    obtain ⟨hb, hs⟩ := noDU_cons hn
    cases s with
    | nil => exact replaceDU_cons (by simpa using hl)
    | cons c s' =>
      have hl' : (c :: s').getLast? ≠ some 95 ∨ rest.head? ≠ some 95 := by
        simpa [List.getLast?_cons_cons] using hl
      rw [List.cons_append, replaceDU_cons (by simpa using hb), ih rest hs hl']
      rfl

/-- Segments joined by `sep`. -/
def joinWith (sep : List Nat) : List (List Nat) → List Nat
  | [] => []
  | [s] => s
  | s :: rest => s ++ sep ++ joinWith sep rest

theorem joinWith_cons_cons (sep s s' : List Nat) (rest : List (List Nat)) :
    joinWith sep (s :: s' :: rest) = s ++ sep ++ joinWith sep (s' :: rest) := rfl

theorem replaceDU_join : ∀ (segs : List (List Nat)),
    (∀ s ∈ segs, noDU s = true ∧ s.getLast? ≠ some 95) →
    replaceDU (joinWith [95, 95] segs) = joinWith [46] segs := by
  intro segs
  induction segs with
  | nil => intro _; rfl
  | cons s rest ih =>
    intro h
    have hs := h s (List.mem_cons_self ..)
    cases rest with
    | nil => simpa [joinWith, replaceDU] using replaceDU_noDU_append s [] hs.1 (.inr nofun)
    | cons s' rest' =>
      rw [joinWith_cons_cons, List.append_assoc, replaceDU_noDU_append s _ hs.1 (.inl hs.2),
        List.cons_append, List.cons_append, List.nil_append, replaceDU,
        ih fun x hx => h x (List.mem_cons_of_mem _ hx)]
      simp [joinWith]

theorem splitDot_eq : ∀ bs, splitDot bs = splitSep 46 bs
  | [] => rfl
  | b :: bs => by
    rw [splitDot, splitSep, splitDot_eq bs]
    match splitSep 46 bs, splitSep_ne_nil (sep := 46) bs with
    | p :: ps, _ => rfl

theorem joinWith_singleton (c : Nat) : ∀ segs, joinWith [c] segs = joinSep c segs
  | [] => rfl
  | [_] => rfl
  | s :: s' :: rest => by simp [joinWith, joinSep, joinWith_singleton c (s' :: rest)]

theorem splitDot_join (segs : List (List Nat)) (hne : segs ≠ []) (h : ∀ s ∈ segs, 46 ∉ s) :
    splitDot (joinWith [46] segs) = segs := by
  rw [joinWith_singleton, splitDot_eq, splitSep_joinSep hne h]

theorem trimStart_of_head {bs : List Nat} (h : ∀ b r, bs = b :: r → isWs b = false) :
    trimStart bs = bs := by
  cases bs with
  | nil => rfl
  | cons b r => simp [trimStart, List.dropWhile, h b r rfl]

theorem trim_id {bs : List Nat} (hh : ∀ b r, bs = b :: r → isWs b = false)
    (hl : ∀ b, bs.getLast? = some b → isWs b = false) : trim bs = bs := by
  have : trimStart bs.reverse = bs.reverse :=
    trimStart_of_head fun b r hr => hl b (by rw [← List.reverse_reverse bs, hr]; simp)
  rw [trim, trimStart_of_head hh, this, List.reverse_reverse]

theorem trim_id_of_all {bs : List Nat} (h : ∀ b ∈ bs, isWs b = false) : trim bs = bs :=
  trim_id (fun b _ e => h b (e ▸ List.mem_cons_self ..)) fun b e => h b (List.mem_of_getLast? e)

theorem mem_joinWith {sep : List Nat} {b : Nat} :
    ∀ {segs : List (List Nat)}, b ∈ joinWith sep segs → b ∈ sep ∨ ∃ s ∈ segs, b ∈ s := by
  intro segs
  induction segs with
  | nil => intro h; cases h
  | cons s rest ih =>
    intro h
    cases rest with
    | nil => exact .inr ⟨s, List.mem_cons_self .., h⟩
    | cons s' rest' =>
      rw [joinWith_cons_cons, List.mem_append, List.mem_append] at h
      rcases h with (h | h) | h
      · exact .inr ⟨s, List.mem_cons_self .., h⟩
      · exact .inl h
      · exact (ih h).imp_right fun ⟨t, ht, hb⟩ => ⟨t, List.mem_cons_of_mem _ ht, hb⟩

theorem eqUncased_refl (a : List Nat) : eqUncased a a = true := by simp [eqUncased]

end Pxv.Config
