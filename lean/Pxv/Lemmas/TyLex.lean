import Pxv.Model.TyParse
/-! Lexical facts for the reader of rendered types: what `spanP` and `dropPrefix?` return on a known
prefix, which characters may follow a type, and that identifiers, numbers, scalar names, ABI strings
and path segments are read back as what was printed. -/
namespace Pxv.Ty

theorem spanP_append {p : Char → Bool} : ∀ (w r : List Char), (∀ c ∈ w, p c = true) →
    (∀ c r', r = c :: r' → p c = false) → spanP p (w ++ r) = (w, r)
  | [], [], _, _ => rfl
  | [], c :: r, _, hr => by simp [spanP, hr c r rfl]
  | a :: w, r, hw, hr => by
      simp [spanP, hw a (by simp), spanP_append w r (fun c hc => hw c (by simp [hc])) hr]

theorem dropPrefix?_append : ∀ (p X : List Char), dropPrefix? p (p ++ X) = some X
  | [], X => by cases X <;> rfl
  | a :: p, X => by simp [dropPrefix?, dropPrefix?_append p X]

theorem dropPrefix?_head_ne {a b : Char} (p s : List Char) (h : a ≠ b) :
    dropPrefix? (a :: p) (b :: s) = none := by
  simp [dropPrefix?, h]

theorem dropPrefix?_nil_right {a : Char} (p : List Char) : dropPrefix? (a :: p) [] = none := rfl

/-- What may follow a rendered type inside a rendered type. -/
def follow : List Char → Bool
  | [] => true
  | c :: _ => c == ',' || c == '>' || c == ')' || c == ']' || c == ';'

/-- What the reader's lookahead sees of a character that may follow a type. -/
structure FollowChar (c : Char) : Prop where
  notId : isIdChar c = false
  notDigit : c.isDigit = false
  neColon : c ≠ ':'
  neLt : c ≠ '<'
  neSpace : c ≠ ' '

theorem follow_head {rest : List Char} (h : follow rest = true) {c : Char} {r : List Char}
    (e : rest = c :: r) : FollowChar c := by
  subst e
  simp only [follow, Bool.or_eq_true, beq_iff_eq] at h
  rcases h with (((rfl | rfl) | rfl) | rfl) | rfl <;> constructor <;> decide

theorem follow_notId {rest : List Char} (h : follow rest = true) :
    ∀ c r, rest = c :: r → isIdChar c = false :=
  fun _ _ e => (follow_head h e).notId

/-- The lexical part of `isIdent`: a nonempty run of identifier characters that starts like one. -/
def isWord : List Char → Bool
  | [] => false
  | c :: r => isIdStart c && r.all isIdChar

theorem isIdStart_isIdChar {c : Char} (h : isIdStart c = true) : isIdChar c = true := by
  simp only [isIdStart, isIdChar, Char.isAlphanum, Bool.or_eq_true] at *
  rcases h with h | h
  · exact Or.inl (Or.inl h)
  · exact Or.inr h

theorem isIdStart_not_digit {c : Char} (h : isIdStart c = true) : c.isDigit = false := by
  simp only [isIdStart, Char.isAlpha, Char.isUpper, Char.isLower, Bool.or_eq_true, Bool.and_eq_true,
    decide_eq_true_eq, beq_iff_eq] at h
  simp only [Char.isDigit, Bool.and_eq_false_iff, decide_eq_false_iff_not]
  rcases h with (h | h) | h
  · simp [UInt32.le_iff_toNat_le] at *; omega
  · simp [UInt32.le_iff_toNat_le] at *; omega
  · subst h; decide

theorem isWord_unpack : ∀ {w : List Char}, isWord w = true →
    (∃ c r, w = c :: r ∧ isIdStart c = true) ∧ ∀ c ∈ w, isIdChar c = true
  | c :: r, h => by
    simp only [isWord, Bool.and_eq_true, List.all_eq_true] at h
    refine ⟨⟨c, r, rfl, h.1⟩, fun d hd => ?_⟩
    rcases List.mem_cons.mp hd with rfl | hd
    · exact isIdStart_isIdChar h.1
    · exact h.2 d hd

theorem isIdent_unpack {x : String} (h : isIdent x = true) :
    isWord x.toList = true ∧ x ≠ "_" ∧ x ∉ reserved := by
  have e : isIdent x = (isWord x.toList && x != "_" && !reserved.contains x) := rfl
  simpa [e, and_assoc] using h

/-- The keywords the reader itself looks for are reserved, so no identifier is one of them. -/
theorem isIdent_ne_kw {x : String} (h : isIdent x = true) :
    ∀ k ∈ ["mut", "true", "false", "unsafe", "extern", "fn", "static"], x.toList ≠ k.toList := by
  intro k hk e
  apply (isIdent_unpack h).2.2
  rw [String.toList_injective e]
  clear e
  revert k
  decide +kernel

theorem word_ne_nil {w : List Char} (h : isWord w = true) : w ≠ [] := by
  rintro rfl; cases h

theorem spanP_word {w : List Char} (h : isWord w = true) {q : List Char}
    (hq : ∀ c r, q = c :: r → isIdChar c = false) : spanP isIdChar (w ++ q) = (w, q) :=
  spanP_append _ _ (isWord_unpack h).2 hq

theorem digitChars_spec : ∀ d : Fin 10, (digitChars.getD d.val '0').isDigit = true ∧
    (digitChars.getD d.val '0').toNat - 48 = d.val := by decide

theorem natDigits_ne_nil (n : Nat) : natDigits n ≠ [] := by
  unfold natDigits; split <;> simp

theorem natDigits_isDigit (n : Nat) : ∀ c ∈ natDigits n, c.isDigit = true := by
  induction n using Nat.strongRecOn with
  | _ n ih =>
    intro c hc
    rw [natDigits] at hc
    split at hc
    · rename_i h
      rw [List.mem_singleton.mp hc]
      exact (digitChars_spec ⟨n, h⟩).1
    · rcases List.mem_append.mp hc with hc | hc
      · exact ih (n / 10) (by omega) c hc
      · rw [List.mem_singleton.mp hc]
        exact (digitChars_spec ⟨n % 10, Nat.mod_lt _ (by decide)⟩).1

theorem digitsVal_natDigits (n : Nat) : digitsVal (natDigits n) = n := by
  induction n using Nat.strongRecOn with
  | _ n ih =>
    rw [natDigits]
    split
    · rename_i h
      have := (digitChars_spec ⟨n, h⟩).2
      simp only [digitsVal, List.foldl_cons, List.foldl_nil] at *
      omega
    · have h1 := ih (n / 10) (by omega)
      have h2 := (digitChars_spec ⟨n % 10, Nat.mod_lt _ (by decide)⟩).2
      simp only [digitsVal, List.foldl_append, List.foldl_cons, List.foldl_nil] at *
      rw [h1]
      omega

theorem mem_allScalars (s : Scalar) : s ∈ allScalars := by cases s <;> decide +kernel

theorem allScalars_spec :
    ∀ s ∈ allScalars, isIdent s.name = true ∧ scalarOfName s.name.toList = some s := by
  decide +kernel

theorem scalarOfName_none {x : String} (h : isScalarName x = false) :
    scalarOfName x.toList = none := by
  unfold scalarOfName
  rw [List.find?_eq_none]
  intro s hs
  unfold isScalarName at h
  rw [List.any_eq_false] at h
  have := h s hs
  simp only [beq_iff_eq] at this ⊢
  exact mt String.toList_injective this

theorem ident_ne_static_us {n : String} (h : isIdent n = true) :
    ¬ (n.toList == "static".toList) = true ∧ ¬ (n.toList == "_".toList) = true := by
  simp only [beq_iff_eq]
  exact ⟨isIdent_ne_kw h "static" (by decide), mt String.toList_injective (isIdent_unpack h).2.1⟩

theorem ltOfName_ident {n : String} (h : isIdent n = true) : ltOfName n.toList = .named n := by
  unfold ltOfName
  rw [if_neg (ident_ne_static_us h).1, if_neg (ident_ne_static_us h).2, String.ofList_toList]

theorem gltOfName_ident {n : String} (h : isIdent n = true) : gltOfName n.toList = .named n := by
  unfold gltOfName
  rw [if_neg (ident_ne_static_us h).1, if_neg (ident_ne_static_us h).2, String.ofList_toList]

/-- The sixteen named ABIs: their strings contain no quote and read back as the ABI (a fact about
    the table). -/
theorem allAbis_spec : ∀ a ∈ allAbis,
    (a.str?.map fun s => (s.toList.all (· != '"'), abiOfStr s.toList)) = some (true, a) := by
  decide +kernel

theorem abi_roundtrip {abi : Abi} {a : String} (hw : wfAbi abi = true) (ha : abi.str? = some a) :
    (∀ c ∈ a.toList, (c != '"') = true) ∧ abiOfStr a.toList = abi := by
  have table : abi ∈ allAbis → (∀ c ∈ a.toList, (c != '"') = true) ∧ abiOfStr a.toList = abi := by
    intro h
    have := allAbis_spec abi h
    rw [ha] at this
    simpa only [Option.map_some, Option.some.injEq, Prod.mk.injEq, List.all_eq_true] using this
  cases abi with
  | rust => cases ha
  | other _ =>
    cases ha
    simp only [wfAbi, Bool.and_eq_true, List.all_eq_true, Bool.or_eq_true, beq_iff_eq,
      Bool.not_eq_true', List.any_eq_false] at hw
    constructor
    · intro c hc
      rcases hw.1 c hc with h | h
      · rw [bne_iff_ne]; rintro rfl; exact absurd h (by decide)
      · subst h; decide
    · unfold abiOfStr
      have : allAbis.find? (fun x => x.str? == some (String.ofList a.toList)) = none := by
        rw [List.find?_eq_none, String.ofList_toList]
        intro x hx
        simpa using hw.2 x hx
      rw [this, String.ofList_toList]
  | _ u => cases u <;> exact table (by decide)

/-- `"::" ++ seg` for every segment. -/
def segStr : List String → List Char
  | [] => []
  | x :: r => ':' :: ':' :: (x.toList ++ segStr r)

theorem joinSep_cons :
    ∀ (r : List String) (x : String), joinSep "::".toList (x :: r) = x.toList ++ segStr r
  | [], x => by simp [joinSep, segStr]
  | y :: r, x => by
      have := joinSep_cons r y
      simp only [joinSep] at this ⊢
      rw [this]
      simp [segStr]

theorem segStr_length : ∀ (segs : List String), segs.length ≤ (segStr segs).length
  | [] => by simp
  | x :: r => by
      have := segStr_length r
      simp [segStr]
      omega

theorem parseSegs_nil {Y : List Char} (hY : ∀ c r, Y = c :: r → c ≠ ':') :
    ∀ fuel, parseSegs fuel Y = ([], Y)
  | 0 => rfl
  | f + 1 => by
      unfold parseSegs
      split
      · exact absurd rfl (hY _ _ rfl)
      · rfl

theorem parseSegs_segStr : ∀ (segs : List String) (Y : List Char) (fuel : Nat), segs.length ≤ fuel →
    (∀ x ∈ segs, isIdent x = true) → (∀ c r, Y = c :: r → isIdChar c = false ∧ c ≠ ':') →
    parseSegs fuel (segStr segs ++ Y) = (segs, Y)
  | [], Y, fuel, _, _, hY => parseSegs_nil (fun c r e => (hY c r e).2) fuel
  | x :: r, Y, f + 1, hf, hid, hY => by
      have hx := (isIdent_unpack (hid x (by simp))).1
      -- after `x` comes the `::` of the next segment, or the head of `Y`
      have hq : ∀ c q, segStr r ++ Y = c :: q → isIdChar c = false := by
        cases r with
        | nil => exact fun c q e => (hY c q e).1
        | cons y r' => rintro c q ⟨⟩; decide
      have hs := spanP_word hx hq
      have ih := parseSegs_segStr r Y f (by simpa using hf) (fun y hy => hid y (by simp [hy])) hY
      simp only [segStr, List.cons_append, List.append_assoc]
      unfold parseSegs
      simp only [hs, ih]
      rw [if_neg (word_ne_nil hx), String.ofList_toList]

end Pxv.Ty
