import Pxv.Lemmas.TyLex
/-! The head of a rendered type, and single steps of the reader on rendered input. -/
namespace Pxv.Ty

/-! String literals, split where the reader splits them. Proofs rewrite with these: `String.toList`
of a literal is slow to unfold. -/

theorem toList_commasp : ", ".toList = [',', ' '] := by decide +kernel
theorem toList_colonsp : ": ".toList = [':', ' '] := by decide +kernel
theorem toList_semisp : "; ".toList = [';', ' '] := by decide +kernel
theorem toList_mutsp : "mut ".toList = "mut".toList ++ [' '] := by decide +kernel
theorem toList_qstatic : "'static ".toList = '\'' :: ("static".toList ++ [' ']) := by decide +kernel
theorem toList_qus : "'_ ".toList = '\'' :: ("_".toList ++ [' ']) := by decide +kernel
theorem toList_qstatic' : "'static".toList = '\'' :: "static".toList := by decide +kernel
theorem toList_qus' : "'_".toList = '\'' :: "_".toList := by decide +kernel
theorem toList_externq : "extern \"".toList = "extern".toList ++ [' ', '"'] := by decide +kernel
theorem toList_fnp : "fn(".toList = "fn".toList ++ ['('] := by decide +kernel
theorem toList_qsp : "\" ".toList = ['"', ' '] := by decide +kernel
theorem toList_starmut : "*mut ".toList = '*' :: "mut ".toList := by decide +kernel
theorem toList_starconst : "*const ".toList = '*' :: "const ".toList := by decide +kernel
theorem mutsp_cons : "mut ".toList = 'm' :: ['u', 't', ' '] := by decide +kernel
theorem constsp_cons : "const ".toList = 'c' :: ['o', 'n', 's', 't', ' '] := by decide +kernel
theorem kwUnsafe_cons : kwUnsafe = 'u' :: ['n', 's', 'a', 'f', 'e', ' '] := by decide +kernel
theorem externq_cons : "extern \"".toList = 'e' :: ['x', 't', 'e', 'r', 'n', ' ', '"'] := by
  decide +kernel
theorem fnp_cons : "fn(".toList = 'f' :: ['n', '('] := by decide +kernel
theorem toList_arrow : " -> ".toList = ' ' :: "-> ".toList := by decide +kernel

/-- What the proofs need to know about the beginning of `renderD false t ++ rest`. -/
structure HeadOk (s : List Char) : Prop where
  first : ∃ c r, s = c :: r ∧ (c = '&' ∨ c = '(' ∨ c = '[' ∨ c = '*' ∨ isIdStart c = true)
  notMut : (spanP isIdChar s).1 ≠ "mut".toList
  notTrue : (spanP isIdChar s).1 ≠ "true".toList
  notFalse : (spanP isIdChar s).1 ≠ "false".toList
  notName : dropPrefix? ": ".toList (spanP isIdChar s).2 = none

theorem headOk_word {w : List Char} (hw : isWord w = true)
    (hk : w ≠ "mut".toList ∧ w ≠ "true".toList ∧ w ≠ "false".toList) {q : List Char}
    (hq : ∀ c r, q = c :: r → isIdChar c = false ∧ (c = ':' → ∃ r', r = ':' :: r')) :
    HeadOk (w ++ q) := by
  obtain ⟨c0, r0, rfl, hc0⟩ := (isWord_unpack hw).1
  have hs := spanP_word hw fun c r e => (hq c r e).1
  obtain ⟨hmut, htrue, hfalse⟩ := hk
  constructor
  case first => exact ⟨c0, r0 ++ q, rfl, .inr (.inr (.inr (.inr hc0)))⟩
  case notMut => rw [hs]; exact hmut
  case notTrue => rw [hs]; exact htrue
  case notFalse => rw [hs]; exact hfalse
  case notName =>
    -- what follows the word is not `: `: a colon there is followed by another colon
    rw [hs, toList_colonsp]
    cases q with
    | nil => rfl
    | cons c r =>
      by_cases hcc : ':' = c
      · obtain ⟨r', rfl⟩ := (hq c r rfl).2 hcc.symm
        simp [dropPrefix?]
      · simp [dropPrefix?, hcc]

theorem headOk_ident {x : String} (hx : isIdent x = true) {q : List Char}
    (hq : ∀ c r, q = c :: r → isIdChar c = false ∧ (c = ':' → ∃ r', r = ':' :: r')) :
    HeadOk (x.toList ++ q) :=
  headOk_word (isIdent_unpack hx).1
    ⟨isIdent_ne_kw hx "mut" (by decide), isIdent_ne_kw hx "true" (by decide),
      isIdent_ne_kw hx "false" (by decide)⟩ hq

theorem headOk_sym {c : Char} (X : List Char) (hf : c = '&' ∨ c = '(' ∨ c = '[' ∨ c = '*') :
    HeadOk (c :: X) := by
  have hc : isIdChar c = false ∧ ¬ ':' = c := by rcases hf with rfl | rfl | rfl | rfl <;> decide
  have hs : spanP isIdChar (c :: X) = ([], c :: X) := by simp [spanP, hc.1]
  -- the identifier span in front is empty, so it is none of the three keywords
  constructor
  case first => exact ⟨c, X, rfl, by rcases hf with h | h | h | h <;> simp [h]⟩
  case notMut => rw [hs]; show ([] : List Char) ≠ _; decide
  case notTrue => rw [hs]; show ([] : List Char) ≠ _; decide
  case notFalse => rw [hs]; show ([] : List Char) ≠ _; decide
  case notName => rw [hs]; simp [dropPrefix?, hc.2]

/-- The `extern "…" ` part of `write_fn_pointer_prefix`. -/
def externPart (abi : Abi) : List Char :=
  match abi.str? with
  | some s => "extern \"".toList ++ s.toList ++ "\" ".toList
  | none => []

theorem fnPrefix_eq (abi : Abi) (u : Bool) :
    fnPrefix abi u = (if u then kwUnsafe else []) ++ externPart abi := rfl

theorem render_fnPtr (ins : FnIns) (out : OTy) (abi : Abi) (u : Bool) (rest : List Char) :
    renderD false (.fnPtr ins out abi u) ++ rest =
      fnPrefix abi u ++
        ("fn(".toList ++ (renderInsD false true ins ++ (')' :: (renderOD false out ++ rest)))) := by
  simp [renderD]

/-- The keyword a rendered function pointer starts with. -/
theorem fnPrefix_head (abi : Abi) (u : Bool) (Z : List Char) :
    ∃ w q, fnPrefix abi u ++ ("fn(".toList ++ Z) = w ++ q ∧
      (w = "unsafe".toList ∨ w = "extern".toList ∨ w = "fn".toList) ∧
      ∀ c r, q = c :: r → c = ' ' ∨ c = '(' := by
  rw [fnPrefix_eq]
  cases u with
  | true =>
    refine ⟨"unsafe".toList, ' ' :: (externPart abi ++ ("fn(".toList ++ Z)), ?_, .inl rfl, ?_⟩
    · simp [kwUnsafe]
    · rintro _ _ ⟨⟩
      exact .inl rfl
  | false =>
    unfold externPart
    cases abi.str? with
    | some a =>
      refine ⟨"extern".toList, ' ' :: '"' :: (a.toList ++ ("\" ".toList ++ ("fn(".toList ++ Z))),
        ?_, .inr (.inl rfl), ?_⟩
      · simp [toList_externq]
      · rintro _ _ ⟨⟩
        exact .inl rfl
    | none =>
      refine ⟨"fn".toList, '(' :: Z, ?_, .inr (.inr rfl), ?_⟩
      · simp [toList_fnp]
      · rintro _ _ ⟨⟩
        exact .inr rfl

theorem fnkw_word {w : List Char}
    (h : w = "unsafe".toList ∨ w = "extern".toList ∨ w = "fn".toList) :
    isWord w = true ∧ w ≠ "mut".toList ∧ w ≠ "true".toList ∧ w ≠ "false".toList := by
  rcases h with rfl | rfl | rfl <;> decide +kernel

theorem headOk_fn (ins : FnIns) (out : OTy) (abi : Abi) (u : Bool) (rest : List Char) :
    HeadOk (renderD false (.fnPtr ins out abi u) ++ rest) := by
  rw [render_fnPtr]
  obtain ⟨w, q, e, hw, hq⟩ :=
    fnPrefix_head abi u (renderInsD false true ins ++ (')' :: (renderOD false out ++ rest)))
  rw [e]
  refine headOk_word (fnkw_word hw).1 (fnkw_word hw).2 fun c r hc => ?_
  rcases hq c r hc with rfl | rfl <;> exact ⟨by decide, fun h => absurd h (by decide)⟩

theorem parseAbiFn_render (abi : Abi) (Z : List Char) (hw : wfAbi abi = true) :
    parseAbiFn (externPart abi ++ ("fn(".toList ++ Z)) = some (abi, Z) := by
  unfold parseAbiFn externPart
  cases ha : abi.str? with
  | none =>
    have : abi = .rust := by
      cases abi with
      | rust => rfl
      | _ => cases ha
    subst this
    have d : dropPrefix? "extern \"".toList ("fn(".toList ++ Z) = none := by
      rw [externq_cons, fnp_cons]; exact dropPrefix?_head_ne _ _ (by decide)
    simp only [List.nil_append, d, dropPrefix?_append]
  | some a =>
    obtain ⟨hq, hab⟩ := abi_roundtrip hw ha
    have hs : spanP (fun c => c != '"') (a.toList ++ ("\" ".toList ++ ("fn(".toList ++ Z))) =
        (a.toList, "\" ".toList ++ ("fn(".toList ++ Z)) :=
      spanP_append _ _ hq (by rw [toList_qsp]; rintro _ _ ⟨⟩; decide)
    simp only [List.append_assoc, dropPrefix?_append, hs, hab]

theorem parseFnPrefix_render (abi : Abi) (u : Bool) (Z : List Char) (hw : wfAbi abi = true) :
    parseFnPrefix (fnPrefix abi u ++ ("fn(".toList ++ Z)) = some ((u, abi), Z) := by
  have key := parseAbiFn_render abi Z hw
  unfold parseFnPrefix
  rw [fnPrefix_eq]
  cases u with
  | true => simp only [if_true, List.append_assoc, dropPrefix?_append, key]
  | false =>
    have d : dropPrefix? kwUnsafe (externPart abi ++ ("fn(".toList ++ Z)) = none := by
      unfold externPart
      cases abi.str? with
      | none => rw [kwUnsafe_cons, fnp_cons]; exact dropPrefix?_head_ne _ _ (by decide)
      | some a => rw [kwUnsafe_cons, externq_cons]; exact dropPrefix?_head_ne _ _ (by decide)
    simp only [Bool.false_eq_true, if_false, List.nil_append, d, key]

/-- The `<…>` part of a rendered path. -/
def argsPart (as : GArgs) : List Char :=
  match as with
  | .nil => []
  | as => '<' :: (renderArgsD false true as ++ ['>'])

theorem renderD_path (al : Bool) (p : String) (i : Option Nat) (bs : List String) (as : GArgs) :
    renderD false (.path al p i bs as) = joinSep "::".toList bs ++ argsPart as := by
  cases as <;> simp [renderD, argsPart]

theorem render_head (t : Ty) (rest : List Char) (hw : wf t = true) (hr : follow rest = true) :
    HeadOk (renderD false t ++ rest) := by
  have hq : ∀ c r, rest = c :: r → isIdChar c = false ∧ (c = ':' → ∃ r', r = ':' :: r') :=
    fun c r e => ⟨(follow_head hr e).notId, fun h => absurd h (follow_head hr e).neColon⟩
  cases t with
  | path al p i bs as =>
    simp only [wf, Bool.and_eq_true, decide_eq_true_eq, List.all_eq_true] at hw
    obtain ⟨⟨hlen, hid⟩, _⟩ := hw
    match bs, hlen, hid with
    | s0 :: s1 :: more, _, hid =>
      rw [renderD_path, joinSep_cons]
      simp only [segStr, List.append_assoc, List.cons_append]
      -- the first segment is followed by `::`
      refine headOk_ident (hid s0 (by simp)) ?_
      rintro _ _ ⟨⟩
      exact ⟨by decide, fun _ => ⟨_, rfl⟩⟩
  | ref m l t => exact headOk_sym _ (.inl rfl)
  | tuple es => exact headOk_sym _ (.inr (.inl rfl))
  | scalar s => exact headOk_ident (allScalars_spec s (mem_allScalars s)).1 hq
  | slice e => exact headOk_sym _ (.inr (.inr (.inl rfl)))
  | array e n => exact headOk_sym _ (.inr (.inr (.inl rfl)))
  | rawPtr m t => cases m <;> exact headOk_sym _ (.inr (.inr (.inr rfl)))
  | fnPtr ins out abi u => exact headOk_fn ins out abi u rest
  | generic x => exact headOk_ident (Bool.and_eq_true .. ▸ hw : _ ∧ _).1 hq

theorem first_facts {s : List Char} (h : HeadOk s) :
    ∃ c r, s = c :: r ∧ c ≠ '\'' ∧ c.isDigit = false := by
  obtain ⟨c, r, rfl, hc⟩ := h.first
  refine ⟨c, r, rfl, ?_⟩
  rcases hc with rfl | rfl | rfl | rfl | hc
  · decide
  · decide
  · decide
  · decide
  · refine ⟨?_, isIdStart_not_digit hc⟩
    rintro rfl
    exact absurd hc (by decide)

theorem parseTy_word {f : Nat} {w q : List Char} (hw : isWord w = true) :
    parseTy (f + 1) (w ++ q) = parseIdLed f (w ++ q) := by
  obtain ⟨c, r, rfl, hc⟩ := (isWord_unpack hw).1
  unfold parseTy
  split
  -- the arms for `&` `(` `[` `*` in front: none of the four starts an identifier
  iterate 4
    rename_i heq
    cases (List.cons.inj heq).1
    exact absurd hc (by decide)
  rfl

theorem parseTy_rparen (q : List Char) : ∀ f, parseTy f (')' :: q) = none
  | 0 => rfl
  | 1 => rfl
  | f + 2 => by
      unfold parseTy parseIdLed
      simp [spanP, isIdChar]

theorem parseIn_rparen (q : List Char) : ∀ f, parseIn f (')' :: q) = none
  | 0 => rfl
  | f + 1 => by
      unfold parseIn
      simp [spanP, isIdChar, dropPrefix?, toList_colonsp, parseTy_rparen]

theorem renderRefLt_elided : renderRefLt false .elided = [] := rfl
theorem renderRefLt_static : renderRefLt false .static = "'static ".toList := rfl
theorem renderRefLt_inferred : renderRefLt false .inferred = "'_ ".toList := rfl
theorem renderRefLt_named (n : String) : renderRefLt false (.named n) = '\'' :: (n.toList ++ [' ']) := rfl

theorem parseRefLt_quote {w : List Char} (X : List Char) (hw : ∀ c ∈ w, isIdChar c = true)
    (hne : w ≠ []) : parseRefLt ('\'' :: (w ++ [' ']) ++ X) = some (ltOfName w, X) := by
  have hs : spanP isIdChar (w ++ ' ' :: X) = (w, ' ' :: X) :=
    spanP_append _ _ hw (by rintro _ _ ⟨⟩; decide)
  simp only [List.cons_append, List.append_assoc, List.nil_append]
  unfold parseRefLt
  simp only [hs]
  rw [if_neg hne]

theorem parseRefLt_render (l : Lt) (X : List Char) (hl : wfLt l = true) (hX : ∀ r, X ≠ '\'' :: r) :
    parseRefLt (renderRefLt false l ++ X) = some (l, X) := by
  cases l with
  | static =>
    rw [renderRefLt_static, toList_qstatic]
    exact parseRefLt_quote X (by decide) (by decide)
  | inferred =>
    rw [renderRefLt_inferred, toList_qus]
    exact parseRefLt_quote X (by decide) (by decide)
  | named n =>
    have hu := isIdent_unpack (x := n) hl
    rw [renderRefLt_named, parseRefLt_quote X (isWord_unpack hu.1).2 (word_ne_nil hu.1),
      ltOfName_ident hl]
  | elided =>
    show parseRefLt X = _
    unfold parseRefLt
    split
    · exact (hX _ rfl).elim
    · rfl

theorem parseArg_ty {f : Nat} {t : Ty} {X : List Char} (hh : HeadOk (renderD false t ++ X))
    (hp : parseTy f (renderD false t ++ X) = some (strip t, X)) :
    parseArg (f + 1) (renderD false t ++ X) = some (.ty (strip t), X) := by
  obtain ⟨c, r, hs, h1, h2⟩ := first_facts hh
  have hd : spanP Char.isDigit (renderD false t ++ X) = ([], renderD false t ++ X) := by
    rw [hs]; simp [spanP, h2]
  unfold parseArg
  split
  · -- not a quote in front
    rename_i r' heq
    rw [hs] at heq
    exact absurd (List.cons.inj heq).1 h1
  · simp only [hd, ne_eq, not_true_eq_false, if_false]
    rw [if_neg (not_or.mpr ⟨hh.notTrue, hh.notFalse⟩), hp]

theorem parseArg_quote {f : Nat} {w : List Char} (X : List Char) (hw : ∀ c ∈ w, isIdChar c = true)
    (hne : w ≠ []) (hX : ∀ c r, X = c :: r → isIdChar c = false) :
    parseArg (f + 1) ('\'' :: w ++ X) = some (.lt (gltOfName w), X) := by
  unfold parseArg
  simp only [List.cons_append, spanP_append _ _ hw hX]
  rw [if_neg hne]

theorem parseArg_lt {f : Nat} (l : GLt) (X : List Char) (hl : wfGLt l = true)
    (hX : ∀ c r, X = c :: r → isIdChar c = false) :
    parseArg (f + 1) (renderGLt false l ++ X) = some (.lt l, X) := by
  cases l with
  | static =>
    show parseArg _ ("'static".toList ++ X) = _
    rw [toList_qstatic']
    exact parseArg_quote X (by decide) (by decide) hX
  | inferred =>
    show parseArg _ ("'_".toList ++ X) = _
    rw [toList_qus']
    exact parseArg_quote X (by decide) (by decide) hX
  | named n =>
    have hu := isIdent_unpack (x := n) hl
    show parseArg _ ('\'' :: n.toList ++ X) = _
    rw [parseArg_quote X (isWord_unpack hu.1).2 (word_ne_nil hu.1) hX, gltOfName_ident hl]

theorem parseArg_const {f : Nat} (v : String) (X : List Char) (hv : wfConst v = true)
    (hX : ∀ c r, X = c :: r → isIdChar c = false ∧ c.isDigit = false) :
    parseArg (f + 1) (v.toList ++ X) = some (.const v, X) := by
  -- `true` / `false` are read as words, after the digit span came back empty
  have kw : isWord v.toList = true → (v.toList = "true".toList ∨ v.toList = "false".toList) →
      parseArg (f + 1) (v.toList ++ X) = some (.const v, X) := fun hw hk => by
    obtain ⟨c, r, e, hc⟩ := (isWord_unpack hw).1
    have hd : spanP Char.isDigit (v.toList ++ X) = ([], v.toList ++ X) := by
      simp [e, spanP, isIdStart_not_digit hc]
    unfold parseArg
    split
    · rename_i heq
      rw [e] at heq
      cases (List.cons.inj heq).1
      exact absurd hc (by decide)
    · simp only [hd, ne_eq, not_true_eq_false, if_false, spanP_word hw fun c r e => (hX c r e).1]
      rw [if_pos hk, String.ofList_toList]
  simp only [wfConst, Bool.or_eq_true, beq_iff_eq, Bool.and_eq_true, bne_iff_ne, ne_eq,
    List.all_eq_true] at hv
  rcases hv with (rfl | rfl) | hv
  · exact kw (by decide +kernel) (.inl rfl)
  · exact kw (by decide +kernel) (.inr rfl)
  · have hd := spanP_append _ X hv.2 fun c r e => (hX c r e).2
    cases hvl : v.toList with
    | nil => exact absurd hvl hv.1
    | cons c0 r0 =>
      have hc0 : c0.isDigit = true := hv.2 c0 (by rw [hvl]; simp)
      rw [hvl] at hd
      unfold parseArg
      split
      · rename_i heq
        cases (List.cons.inj heq).1
        exact absurd hc0 (by decide)
      · simp only [hd, ne_eq, reduceCtorEq, not_false_eq_true, if_true]
        rw [← hvl, String.ofList_toList]

theorem parseIn_named {f : Nat} {x : String} {t : Ty} {X : List Char} (hx : isIdent x = true)
    (hp : parseTy f (renderD false t ++ X) = some (strip t, X)) :
    parseIn (f + 1) (x.toList ++ (':' :: ' ' :: (renderD false t ++ X))) =
      some ((some x, strip t), X) := by
  have hw := (isIdent_unpack hx).1
  have hs := spanP_word hw (q := ':' :: ' ' :: (renderD false t ++ X))
    (by rintro _ _ ⟨⟩; decide)
  unfold parseIn
  simp only [hs, toList_colonsp, dropPrefix?, if_true]
  rw [if_neg (word_ne_nil hw), hp, String.ofList_toList]

theorem parseIn_unnamed {f : Nat} {t : Ty} {X : List Char} (hh : HeadOk (renderD false t ++ X))
    (hp : parseTy f (renderD false t ++ X) = some (strip t, X)) :
    parseIn (f + 1) (renderD false t ++ X) = some ((none, strip t), X) := by
  unfold parseIn
  simp only [hh.notName, hp]

theorem startsWithRParen_cons (q : List Char) : startsWithRParen (')' :: q) = true := rfl

theorem startsWithRParen_elim {s : List Char} (h : startsWithRParen s = true) :
    ∃ q, s = ')' :: q := by
  unfold startsWithRParen at h
  split at h
  · exact ⟨_, rfl⟩
  · cases h

theorem sepIf_false : sepIf false = [',', ' '] := toList_commasp

theorem renderArgsD_false {as : GArgs} (h : as ≠ .nil) :
    renderArgsD false false as = ',' :: ' ' :: renderArgsD false true as := by
  cases as with
  | nil => exact absurd rfl h
  | ty _ _ | lt _ _ | const _ _ => simp [renderArgsD, sepIf, toList_commasp]

theorem renderInsD_false {ins : FnIns} (h : ins ≠ .nil) :
    renderInsD false false ins = ',' :: ' ' :: renderInsD false true ins := by
  cases ins with
  | nil => exact absurd rfl h
  | cons _ _ _ => simp [renderInsD, sepIf, toList_commasp]

theorem parseArgsTail_step {f : Nat} {s Y X : List Char} {a : PArg} {as : GArgs}
    (ha : parseArg f s = some (a, Y)) (hr : parseArgsTail f Y = some (as, X)) :
    parseArgsTail (f + 1) (',' :: ' ' :: s) = some (a.cons as, X) := by
  simp only [parseArgsTail, ha, hr]

theorem parseArgsTail_comma {f : Nat} {s X : List Char} {r : GArgs}
    (h : parseArgsTail (f + 1) (',' :: ' ' :: s) = some (r, X)) :
    ∃ a r1 as, parseArg f s = some (a, r1) ∧ parseArgsTail f r1 = some (as, X) ∧ r = a.cons as := by
  simp only [parseArgsTail] at h
  split at h
  · cases h
  · rename_i a r1 ha
    split at h
    · rename_i as r2 hr
      cases h
      exact ⟨a, r1, as, ha, hr, rfl⟩
    · cases h

end Pxv.Ty
