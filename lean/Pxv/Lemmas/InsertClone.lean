import Pxv.Lemmas.Order
import Pxv.Model.Borrow
/-! `insertClone` is the only way any of the four clone-insertion passes adds to a call graph. What it changes and what it
leaves alone is stated here once; the invariants of the passes are folds of these facts. -/
namespace Pxv.CG
open Graph

theorem size_insertClone (g : Graph) (dep consumer : Nat) :
    (insertClone g dep consumer).1.size = g.size + 1 := by
  simp [insertClone, Graph.size]

theorem edges_insertClone (g : Graph) (dep consumer : Nat) :
    (insertClone g dep consumer).1.edges =
      (g.edges.filter (fun e => !(e.src == dep && e.dst == consumer))) ++
        [⟨dep, g.size, .shared⟩, ⟨g.size, consumer, .move⟩] := rfl

theorem mem_edges_insertClone {g : Graph} {dep consumer : Nat} {e : Edge} (h : e ∈ (insertClone g dep consumer).1.edges) :
    e ∈ g.edges ∨ e = ⟨dep, g.size, .shared⟩ ∨ e = ⟨g.size, consumer, .move⟩ := by
  rw [edges_insertClone] at h
  simp only [List.mem_append, List.mem_filter, List.mem_cons, List.not_mem_nil, or_false] at h
  exact h.imp_left And.left

/-- an original node keeps everything but its capture bookkeeping. -/
theorem node_insertClone_lt (g : Graph) (b n : Nat) {x : Nat} (hx : x < g.size) :
    ∃ t d, (insertClone g b n).1.node x = { g.node x with tied := t, direct := d } := by
  simp only [insertClone, Graph.node, Graph.size] at *
  rw [List.getD_eq_getElem?_getD, List.getD_eq_getElem?_getD,
    List.getElem?_append_left (by simpa using hx)]
  simp only [List.getElem?_map, List.getElem?_zipIdx, List.getElem?_eq_getElem hx, Option.map_some,
    Option.getD_some]
  split <;> exact ⟨_, _, rfl⟩

theorem copy_insertClone_old (g : Graph) (b n x : Nat) (hx : x < g.size) :
    ((insertClone g b n).1.node x).copy = (g.node x).copy := by
  obtain ⟨t, d, h⟩ := node_insertClone_lt g b n hx
  rw [h]

theorem isRef_insertClone_old (g : Graph) (b n x : Nat) (hx : x < g.size) :
    ((insertClone g b n).1.node x).isRef = (g.node x).isRef := by
  obtain ⟨t, d, h⟩ := node_insertClone_lt g b n hx
  rw [h]

theorem cloneable_insertClone_old (g : Graph) (b n x : Nat) (hx : x < g.size) :
    ((insertClone g b n).1.node x).cloneable = (g.node x).cloneable := by
  obtain ⟨t, d, h⟩ := node_insertClone_lt g b n hx
  rw [h]

theorem node_insertClone_ge (g : Graph) (b n x : Nat) (hx : g.size ≤ x) :
    ((insertClone g b n).1.node x).copy = false ∧ ((insertClone g b n).1.node x).cloneable = false := by
  simp only [insertClone, Graph.node, Graph.size] at *
  rw [List.getD_eq_getElem?_getD]
  generalize hm : (List.map _ g.nodes.zipIdx) = m
  have hl : m.length = g.nodes.length := by rw [← hm]; simp
  rw [List.getElem?_append_right (by omega), hl]
  cases h : x - g.nodes.length with
  | zero => simp
  | succ k => simp

/-- by-value consumers of `d` among a raw edge list -/
def consumersOf (es : List Edge) (d : Nat) : List Nat :=
  ((es.filter (·.src == d)).filter (·.kind == .move)).map (·.dst)

theorem consumersOf_drop (es : List Edge) (dep consumer d : Nat) :
    consumersOf (es.filter (fun e => !(e.src == dep && e.dst == consumer))) d =
      (consumersOf es d).filter (fun c => !(d == dep && c == consumer)) := by
  simp only [consumersOf, List.filter_filter, List.filter_map]
  refine congrArg _ (List.filter_congr fun e _ => ?_)
  cases h : e.src == d
  · simp
  · obtain rfl := beq_iff_eq.mp h
    simp only [Function.comp, Bool.and_true, Bool.true_and]
    exact Bool.and_comm ..

theorem consumers_insertClone (g : Graph) (dep consumer d : Nat) (hd : d < g.size) :
    (insertClone g dep consumer).1.consumers d =
      (g.consumers d).filter (fun c => !(d == dep && c == consumer)) := by
  have hne : g.size ≠ d := by omega
  have : consumersOf [⟨dep, g.size, .shared⟩, ⟨g.size, consumer, .move⟩] d = [] := by
    by_cases dep = d <;> simp [consumersOf, *]
  show consumersOf (_ ++ _) d = _
  rw [consumersOf, List.filter_append, List.filter_append, List.map_append, ← consumersOf,
    ← consumersOf, consumersOf_drop, this, List.append_nil]
  rfl

theorem consumers_insertClone_other (g : Graph) (dep consumer d : Nat) (hd : d ≠ dep) (hds : d < g.size) :
    (insertClone g dep consumer).1.consumers d = g.consumers d := by
  simp [consumers_insertClone g dep consumer d hds, hd]

theorem filter_edges_insertClone (g : Graph) (dep consumer : Nat) (p : Edge → Bool) :
    (insertClone g dep consumer).1.edges.filter p =
      (g.edges.filter p).filter (fun e => !(e.src == dep && e.dst == consumer)) ++
        ([⟨dep, g.size, .shared⟩, ⟨g.size, consumer, .move⟩] : List Edge).filter p := by
  rw [edges_insertClone, List.filter_append, List.filter_filter, List.filter_filter]
  congr 2
  funext e
  exact Bool.and_comm ..

theorem inEdges_insertClone_other (g : Graph) (dep consumer m : Nat) (hm : m ≠ consumer) (hlt : m < g.size) :
    (insertClone g dep consumer).1.inEdges m = g.inEdges m := by
  have a1 : (g.size == m) = false := by simp; omega
  have a2 : (consumer == m) = false := by simpa using fun h => hm h.symm
  -- no edge into `m` is dropped, neither new edge ends in `m`
  have keep : ∀ e ∈ g.edges.filter (·.dst == m), (!(e.src == dep && e.dst == consumer)) = true :=
    fun e he => by simp [beq_iff_eq.1 (List.mem_filter.1 he).2, hm]
  unfold Graph.inEdges
  rw [filter_edges_insertClone, List.filter_eq_self.2 keep]
  simp [a1, a2]

theorem outEdges_insertClone_other (g : Graph) (dep consumer d : Nat) (hd : d ≠ dep) (hds : d < g.size) :
    (insertClone g dep consumer).1.outEdges d = g.outEdges d := by
  have a : (dep == d) = false := by simpa using fun h => hd h.symm
  have b : (g.size == d) = false := by simp; omega
  -- no edge out of `d` is dropped, neither new edge starts at `d`
  have keep : ∀ e ∈ g.edges.filter (·.src == d), (!(e.src == dep && e.dst == consumer)) = true :=
    fun e he => by simp [beq_iff_eq.1 (List.mem_filter.1 he).2, hd]
  unfold outEdges
  rw [filter_edges_insertClone, List.filter_eq_self.2 keep]
  simp [a, b]

theorem outEdges_insertClone_new (g : Graph) (dep consumer : Nat) (hwf : g.wellFormed = true)
    (hdep : dep < g.size) :
    (insertClone g dep consumer).1.outEdges g.size = [⟨g.size, consumer, .move⟩] := by
  have a : (dep == g.size) = false := by simp; omega
  have h0 : g.edges.filter (·.src == g.size) = [] := List.filter_eq_nil_iff.2 fun e he => by
    have := (lt_size_of_mem_edges hwf he).1
    simp; omega
  unfold outEdges
  rw [filter_edges_insertClone, h0]
  simp [a]

theorem insertClone_wf {g : Graph} {dep consumer : Nat} (hwf : g.wellFormed = true)
    (hp : dep ∈ g.preds consumer) : (insertClone g dep consumer).1.wellFormed = true := by
  have hb0 := preds_lt hwf hp
  unfold wellFormed
  rw [List.all_eq_true]
  intro e he
  rw [size_insertClone]
  simp only [Bool.and_eq_true, decide_eq_true_eq]
  rcases mem_edges_insertClone he with he | rfl | rfl
  · have := lt_size_of_mem_edges hwf he
    omega
  · simp
    omega
  · simp
    omega

theorem insertClone_ranked {g : Graph} {dep consumer : Nat} (hwf : g.wellFormed = true)
    (hr : ∃ r, Ranked g r) (hp : dep ∈ g.preds consumer) : ∃ r, Ranked (insertClone g dep consumer).1 r := by
  obtain ⟨r, hr⟩ := hr
  obtain ⟨e0, he0, rfl, rfl⟩ := mem_preds.1 hp
  have hb0 := lt_size_of_mem_edges hwf he0
  have hr0 := hr e0 he0
  -- the clone sits between the value and everything above it: ranks are doubled to make room
  refine ⟨fun x => if x = g.size then 2 * r e0.src + 1 else 2 * r x, fun e he => ?_⟩
  rcases mem_edges_insertClone he with he | rfl | rfl
  · have hb := lt_size_of_mem_edges hwf he
    have := hr e he
    simp only [Nat.ne_of_lt hb.1, Nat.ne_of_lt hb.2, if_false]
    omega
  · simp only [Nat.ne_of_lt hb0.1, if_false, if_true]
    omega
  · simp only [Nat.ne_of_lt hb0.2, if_false, if_true]
    omega

theorem captureFree_insertClone {g : Graph} (h : captureFree g = true) (b n : Nat) :
    captureFree (insertClone g b n).1 = true := by
  unfold captureFree at *
  rw [List.all_eq_true] at *
  intro nd hnd
  simp only [insertClone, List.mem_append, List.mem_map, List.mem_singleton] at hnd
  rcases hnd with ⟨⟨nd0, i⟩, hm, rfl⟩ | rfl
  · have hm0 : nd0 ∈ g.nodes := by
      obtain ⟨_, hi, hnd0⟩ := List.mem_zipIdx hm
      exact List.mem_iff_getElem.mpr ⟨i, by simpa using hi, by simpa using hnd0.symm⟩
    have := h nd0 hm0
    simp only [Bool.and_eq_true, List.isEmpty_iff] at this
    split <;> simp [this.1, this.2]
  · simp

/-- `g` is `g0` with clones added, of values in `D` only, each handed to a consumer in `C`: the original nodes keep the flags
    the passes read, the original values outside `D` keep their by-value consumers, the original nodes outside `C` keep their
    incoming edges. `multiple_consumers` and `move_while_borrowed` each maintain an instance while they traverse the graph. -/
structure Clones (g0 g : Graph) (D C : Nat → Prop) : Prop where
  size : g0.size ≤ g.size
  copy : ∀ x, x < g0.size → (g.node x).copy = (g0.node x).copy
  isRef : ∀ x, x < g0.size → (g.node x).isRef = (g0.node x).isRef
  cloneable : ∀ x, x < g0.size → (g.node x).cloneable = (g0.node x).cloneable
  cons : ∀ x, x < g0.size → ¬ D x → g.consumers x = g0.consumers x
  ins : ∀ m, m < g0.size → ¬ C m → g.inEdges m = g0.inEdges m

theorem Clones.refl (g : Graph) (D C : Nat → Prop) : Clones g g D C where
  size := Nat.le_refl _
  copy _ _ := rfl
  isRef _ _ := rfl
  cloneable _ _ := rfl
  cons _ _ _ := rfl
  ins _ _ _ := rfl

theorem Clones.mono {g0 g : Graph} {D C D' C' : Nat → Prop} (h : Clones g0 g D C) (hD : ∀ x, D x → D' x)
    (hC : ∀ x, C x → C' x) : Clones g0 g D' C' :=
  { h with
    cons := fun x hx hn => h.cons x hx fun hd => hn (hD x hd)
    ins := fun m hm hn => h.ins m hm fun hc => hn (hC m hc) }

theorem Clones.step {g0 g : Graph} {D C : Nat → Prop} (h : Clones g0 g D C) {dep consumer : Nat} (hd : D dep)
    (hc : C consumer) : Clones g0 (insertClone g dep consumer).1 D C := by
  have lt : ∀ {x}, x < g0.size → x < g.size := fun hx => Nat.lt_of_lt_of_le hx h.size
  refine { size := ?size, copy := fun x hx => ?copy, isRef := fun x hx => ?isRef,
           cloneable := fun x hx => ?cloneable, cons := fun x hx hn => ?cons,
           ins := fun m hm hn => ?ins }
  case size =>
    rw [size_insertClone]
    exact Nat.le_succ_of_le h.size
  case copy =>
    rw [copy_insertClone_old _ _ _ _ (lt hx)]
    exact h.copy x hx
  case isRef =>
    rw [isRef_insertClone_old _ _ _ _ (lt hx)]
    exact h.isRef x hx
  case cloneable =>
    rw [cloneable_insertClone_old _ _ _ _ (lt hx)]
    exact h.cloneable x hx
  case cons =>
    have hxd : x ≠ dep := fun e => hn (e ▸ hd)
    rw [consumers_insertClone_other _ _ _ _ hxd (lt hx)]
    exact h.cons x hx hn
  case ins =>
    have hmc : m ≠ consumer := fun e => hn (e ▸ hc)
    rw [inEdges_insertClone_other _ _ _ _ hmc (lt hm)]
    exact h.ins m hm hn

/-- what a pass may have added to the call graph `g0`: nodes that may not be cloned themselves, each fed by one
    shared borrow of a clone-if-necessary node of `g0` and moved into its consumer. -/
structure OnlyClones (g0 g : Graph) : Prop where
  size : g0.size ≤ g.size
  old : ∀ x, x < g0.size → (g.node x).cloneable = (g0.node x).cloneable
  new : ∀ x, g0.size ≤ x → x < g.size → (g.node x).cloneable = false
  edges : ∀ e ∈ g.edges, e ∈ g0.edges ∨
    (e.kind = .shared ∧ e.src < g0.size ∧ (g0.node e.src).cloneable = true ∧ g0.size ≤ e.dst) ∨
    (e.kind = .move ∧ g0.size ≤ e.src)

theorem onlyClones_refl (g : Graph) : OnlyClones g g where
  size := Nat.le_refl _
  old _ _ := rfl
  new _ h1 h2 := absurd h2 (Nat.not_lt.2 h1)
  edges _ he := Or.inl he

theorem onlyClones_insertClone {g0 g : Graph} {b n : Nat} (h : OnlyClones g0 g) (hb : b < g.size)
    (hc : (g.node b).cloneable = true) : OnlyClones g0 (insertClone g b n).1 := by
  have hsz := h.size
  have hb0 : b < g0.size := by
    apply Classical.byContradiction
    intro hnot
    have := h.new b (by omega) hb
    rw [hc] at this
    cases this
  have hc0 : (g0.node b).cloneable = true := by
    rw [← h.old b hb0]
    exact hc
  refine { size := ?size, old := fun x hx => ?old, new := fun x h1 h2 => ?new,
           edges := fun e he => ?edges }
  case size =>
    rw [size_insertClone]
    omega
  case old =>
    rw [cloneable_insertClone_old g b n x (by omega)]
    exact h.old x hx
  case new =>
    rw [size_insertClone] at h2
    by_cases hx : x = g.size
    · exact (node_insertClone_ge g b n x (by omega)).2
    · rw [cloneable_insertClone_old g b n x (by omega)]
      exact h.new x h1 (by omega)
  case edges =>
    rcases mem_edges_insertClone he with he | rfl | rfl
    · exact h.edges e he
    · exact Or.inr (Or.inl ⟨rfl, hb0, hc0, hsz⟩)
    · exact Or.inr (Or.inr ⟨rfl, hsz⟩)

end Pxv.CG
