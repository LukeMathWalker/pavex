/-! Facts about folds, lists kept as sets, splitting at a separator and `Except` that several models
need; nothing here mentions a model. -/
namespace Pxv

/-- Induction over a left fold that also sees the part of the list already consumed
    (`List.foldlRecOn` when `P` ignores it). -/
theorem foldl_invariant {α β : Type} {f : β → α → β} (P : List α → β → Prop) {L : List α} {b : β}
    (h0 : P [] b) (hstep : ∀ done x b, x ∈ L → P done b → P (done ++ [x]) (f b x)) :
    P L (L.foldl f b) := by
  suffices H : ∀ rest done b, done ++ rest = L → P done b → P L (rest.foldl f b) from
    H L [] b rfl h0
  intro rest
  induction rest with
  | nil =>
    intro done b e h
    rw [List.append_nil] at e
    exact e ▸ h
  | cons x xs ih =>
    intro done b e h
    have hx : x ∈ L := by simp [← e]
    exact ih (done ++ [x]) (f b x) (by simp [← e]) (hstep done x b hx h)

/-- A fold whose state carries a set `M s` to which every step adds exactly `g c` collects the image
    of the list. -/
theorem mem_foldl {σ α β} {f : σ → β → σ} {M : σ → List α} {g : β → α}
    (hf : ∀ s c x, x ∈ M (f s c) ↔ x ∈ M s ∨ x = g c) (l : List β) (s : σ) (x : α) :
    x ∈ M (l.foldl f s) ↔ x ∈ M s ∨ ∃ c ∈ l, x = g c := by
  induction l generalizing s with
  | nil => simp
  | cons c l ih =>
    rw [List.foldl_cons, ih, hf, or_assoc]
    simp only [List.mem_cons, exists_eq_or_imp]

theorem mem_insertEnd {α} [BEq α] [LawfulBEq α] {l : List α} {c x : α} :
    x ∈ (if l.contains c then l else l ++ [c]) ↔ x ∈ l ∨ x = c := by
  split
  · next h => exact ⟨.inl, fun h' => h'.elim id (· ▸ List.contains_iff_mem.1 h)⟩
  · simp

theorem mem_foldl_insertEnd {α β} [BEq α] [LawfulBEq α] (f : β → α) (ds : List β) (l : List α)
    (x : α) :
    x ∈ ds.foldl (fun l d => if l.contains (f d) then l else l ++ [f d]) l
      ↔ x ∈ l ∨ ∃ d ∈ ds, x = f d :=
  mem_foldl (M := fun l => l) (g := f) (fun _ _ _ => mem_insertEnd) ds l x

/-- `join(sep)` on lists. -/
def joinSep {α} (sep : α) : List (List α) → List α
  | [] => []
  | [p] => p
  | p :: q :: ps => p ++ sep :: joinSep sep (q :: ps)

/-- `str::split(sep)` on lists. The models write it out once per separator and element type, each
    proved equal to `splitSep` next to its lemmas. -/
def splitSep {α} [DecidableEq α] (sep : α) : List α → List (List α)
  | [] => [[]]
  | c :: cs =>
    if c = sep then [] :: splitSep sep cs
    else match splitSep sep cs with
      | [] => [[c]]
      | p :: ps => (c :: p) :: ps

theorem joinSep_cons_ne {α} {sep : α} {p : List α} {ps : List (List α)} (h : ps ≠ []) :
    joinSep sep (p :: ps) = p ++ sep :: joinSep sep ps := by
  cases ps with
  | nil => exact absurd rfl h
  | cons q qs => rfl

theorem joinSep_snoc {α} {sep : α} {x : List α} {ps : List (List α)} (h : ps ≠ []) :
    joinSep sep (ps ++ [x]) = joinSep sep ps ++ sep :: x := by
  induction ps with
  | nil => exact absurd rfl h
  | cons p ps ih =>
    cases ps with
    | nil => rfl
    | cons q qs =>
      rw [List.cons_append, List.cons_append, joinSep, ← List.cons_append,
        ih (List.cons_ne_nil _ _), joinSep, List.append_assoc, List.cons_append]

theorem mem_joinSep {α} {sep c : α} {p : List α} {ps : List (List α)} (hc : c ∈ p)
    (hp : p ∈ ps) : c ∈ joinSep sep ps := by
  induction ps with
  | nil => cases hp
  | cons q qs ih =>
    cases qs with
    | nil => exact List.mem_singleton.mp hp ▸ hc
    | cons r rs =>
      rw [joinSep, List.mem_append, List.mem_cons]
      exact (List.mem_cons.mp hp).elim (fun e => .inl (e ▸ hc)) fun hp => .inr (.inr (ih hp))

theorem splitSep_of_not_mem {α} [DecidableEq α] {sep : α} {a : List α} (h : sep ∉ a) :
    splitSep sep a = [a] := by
  induction a with
  | nil => rfl
  | cons c cs ih =>
    rw [List.mem_cons, not_or] at h
    rw [splitSep, if_neg (Ne.symm h.1), ih h.2]

theorem splitSep_append {α} [DecidableEq α] {sep : α} {a : List α} (rest : List α)
    (h : sep ∉ a) :
    splitSep sep (a ++ sep :: rest) = a :: splitSep sep rest := by
  induction a with
  | nil => rw [List.nil_append, splitSep, if_pos rfl]
  | cons c cs ih =>
    rw [List.mem_cons, not_or] at h
    rw [List.cons_append, splitSep, if_neg (Ne.symm h.1), ih h.2]

theorem splitSep_joinSep {α} [DecidableEq α] {sep : α} {ps : List (List α)} (hne : ps ≠ [])
    (h : ∀ p ∈ ps, sep ∉ p) :
    splitSep sep (joinSep sep ps) = ps := by
  induction ps with
  | nil => exact absurd rfl hne
  | cons p ps ih =>
    have hp := List.forall_mem_cons.mp h
    cases ps with
    | nil => exact splitSep_of_not_mem hp.1
    | cons q qs => rw [joinSep, splitSep_append _ hp.1, ih (List.cons_ne_nil _ _) hp.2]

theorem splitSep_spec {α} [DecidableEq α] {sep : α} (s : List α) :
    splitSep sep s ≠ [] ∧ (∀ p ∈ splitSep sep s, sep ∉ p)
      ∧ joinSep sep (splitSep sep s) = s := by
  induction s with
  | nil =>
    exact ⟨List.cons_ne_nil _ _, fun p hp => List.mem_singleton.mp hp ▸ List.not_mem_nil, rfl⟩
  | cons c cs ih =>
    obtain ⟨hne, hnd, hj⟩ := ih
    by_cases hc : c = sep
    · rw [splitSep, if_pos hc]
      refine ⟨List.cons_ne_nil _ _, List.forall_mem_cons.mpr ⟨List.not_mem_nil, hnd⟩, ?_⟩
      rw [joinSep_cons_ne hne, hj, hc]
      rfl
    · rw [splitSep, if_neg hc]
      cases h : splitSep sep cs with
      | nil => exact absurd h hne
      | cons p ps =>
        rw [h] at hnd hj
        have hps := List.forall_mem_cons.mp hnd
        have hcp : sep ∉ c :: p := fun h => (List.mem_cons.mp h).elim (Ne.symm hc) hps.1
        refine ⟨List.cons_ne_nil _ _, List.forall_mem_cons.mpr ⟨hcp, hps.2⟩, ?_⟩
        cases ps <;> exact congrArg (c :: ·) hj

theorem splitSep_ne_nil {α} [DecidableEq α] {sep : α} (s : List α) : splitSep sep s ≠ [] :=
  (splitSep_spec s).1

theorem splitSep_snoc_sep {α} [DecidableEq α] {sep : α} (b : List α) :
    splitSep sep (b ++ [sep]) = splitSep sep b ++ [[]] := by
  -- `b ++ [sep]` is the pieces of `b` and one empty piece, joined
  obtain ⟨hne, hnd, hj⟩ := splitSep_spec (sep := sep) b
  have := splitSep_joinSep (List.append_ne_nil_of_left_ne_nil hne [[]])
    (List.forall_mem_append.mpr ⟨hnd, List.forall_mem_singleton.mpr List.not_mem_nil⟩)
  rwa [joinSep_snoc hne, hj] at this

deriving instance DecidableEq for Except

theorem toOption_eq_some {ε α : Type} {x : Except ε α} {a : α} :
    x.toOption = some a ↔ x = .ok a := by
  cases x <;> simp [Except.toOption]

end Pxv
