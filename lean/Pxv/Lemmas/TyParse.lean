import Pxv.Lemmas.TyParseStep
/-! With fuel `need t` the reader reads `renderD false t`, for well-formed `t`, as `strip t` and
stops in front of whatever may follow; the fuel `parse` passes is enough. -/
namespace Pxv.Ty

/-! Fuel the reader needs (nesting depth of its calls). -/
mutual
def need : Ty → Nat
  | .path _ _ _ _ as => needArgs as + 2
  | .ref _ _ t => need t + 1
  | .tuple es => needTys es + 1
  | .scalar _ => 2
  | .slice e => need e + 1
  | .array e _ => need e + 1
  | .rawPtr _ t => need t + 1
  | .fnPtr ins out _ _ => max (needIns ins) (needO out) + 3
  | .generic _ => 2
def needArgs : GArgs → Nat
  | .nil => 1
  | .ty t r => max (need t + 1) (needArgs r) + 1
  | .lt _ r => needArgs r + 1
  | .const _ r => needArgs r + 1
def needTys : Tys → Nat
  | .nil => 1
  | .cons t r => max (need t) (needTys r) + 1
def needIns : FnIns → Nat
  | .nil => 1
  | .cons _ t r => max (need t + 1) (needIns r) + 1
def needO : OTy → Nat
  | .none => 0
  | .some t => need t
end

theorem needArgs_pos (as : GArgs) : 1 ≤ needArgs as := by
  cases as <;> simp [needArgs]

/-- The reader is called with fuel `need … ≤ f`, and `need` of a compound is `need` of a part plus
    what the reader spends on the way there. -/
theorem fuel_sub {a k f : Nat} (h : a + k ≤ f) : ∃ f', f = f' + k ∧ a ≤ f' :=
  ⟨f - k, (Nat.sub_add_cancel (Nat.le_trans (Nat.le_add_left k a) h)).symm,
    Nat.le_sub_of_add_le h⟩

theorem follow_comma (X : List Char) : follow (',' :: X) = true := rfl

theorem follow_tys (r : Tys) (X : List Char) (hX : follow X = true) :
    follow (renderTysD false false r ++ X) = true := by
  cases r with
  | nil => exact hX
  | cons t r' => simp [renderTysD, sepIf, toList_commasp, follow]

theorem follow_args (r : GArgs) (X : List Char) (hX : follow X = true) :
    follow (renderArgsD false false r ++ X) = true := by
  by_cases h : r = .nil
  · subst h; exact hX
  · rw [renderArgsD_false h]; rfl

theorem follow_ins (r : FnIns) (X : List Char) (hX : follow X = true) :
    follow (renderInsD false false r ++ X) = true := by
  by_cases h : r = .nil
  · subst h; exact hX
  · rw [renderInsD_false h]; rfl

theorem ident_not_fnkw {x : String} (h : isIdent x = true) :
    ¬ (x.toList = "unsafe".toList ∨ x.toList = "extern".toList ∨ x.toList = "fn".toList) := by
  rintro (e | e | e) <;> exact isIdent_ne_kw h _ (by decide) e

theorem parseTy_ident {x : String} (hx : isIdent x = true) {rest : List Char}
    (hr : follow rest = true) {f : Nat} (hf : 2 ≤ f) :
    parseTy f (x.toList ++ rest) =
      some (match scalarOfName x.toList with
        | some sc => .scalar sc
        | none => .generic x, rest) := by
  obtain ⟨f, rfl⟩ := Nat.exists_eq_add_of_le' hf
  have hw := (isIdent_unpack hx).1
  rw [parseTy_word hw]
  unfold parseIdLed
  simp only [spanP_word hw (follow_notId hr),
    parseSegs_nil (fun c r e => (follow_head hr e).neColon)]
  rw [if_neg (word_ne_nil hw), if_neg (ident_not_fnkw hx), String.ofList_toList]
  cases scalarOfName x.toList <;> rfl

theorem renderOD_none : renderOD false .none = [] := rfl
theorem renderOD_some (t : Ty) : renderOD false (.some t) = " -> ".toList ++ renderD false t := rfl

/- In every case: `fuel_sub` splits the fuel as the reader spends it, the text is put in the form
   the reader matches on, `parseTy` is unfolded one step, and the induction hypotheses give what its
   calls return. -/
mutual
theorem parseTy_render : ∀ (t : Ty) (f : Nat) (rest : List Char), wf t = true → need t ≤ f →
    follow rest = true → parseTy f (renderD false t ++ rest) = some (strip t, rest)
  -- `&'a mut T`, `&'a T`, `&mut T`, `&T`
  | .ref m l t, f, rest, hw, hf, hr => by
      rw [wf, Bool.and_eq_true] at hw
      obtain ⟨f, rfl, h⟩ := fuel_sub hf
      have ih := parseTy_render t f rest hw.2 h hr
      have hh := render_head t rest hw.2 hr
      simp only [renderD, List.cons_append, List.append_assoc]
      unfold parseTy
      cases m with
      | true =>
        -- after the lifetime the reader finds the word `mut` and a space
        have hsp : spanP isIdChar ("mut ".toList ++ (renderD false t ++ rest)) =
            ("mut".toList, ' ' :: (renderD false t ++ rest)) := by
          rw [toList_mutsp, List.append_assoc]
          exact spanP_append _ _ (by decide) (by rintro _ _ ⟨⟩; decide)
        simp only [if_true]
        rw [parseRefLt_render l _ hw.1 (by rw [toList_mutsp]; simp)]
        simp only [hsp, if_true, ih, strip]
      | false =>
        -- after the lifetime comes `T`: no quote in front (so an elided lifetime is read as
        -- elided), and not the word `mut`
        obtain ⟨c, r, hs, hq, _⟩ := first_facts hh
        have hnq : ∀ r', renderD false t ++ rest ≠ '\'' :: r' := by
          intro r' e
          rw [hs] at e
          exact hq (List.cons.inj e).1
        simp only [Bool.false_eq_true, if_false, List.nil_append]
        rw [parseRefLt_render l _ hw.1 hnq]
        simp only [hh.notMut, if_false, ih, strip]
  | .scalar s, f, rest, _, hf, hr => by
      have hs := allScalars_spec s (mem_allScalars s)
      rw [renderD, parseTy_ident hs.1 hr hf, hs.2, strip]
  | .generic x, f, rest, hw, hf, hr => by
      rw [wf, Bool.and_eq_true, Bool.not_eq_true'] at hw
      rw [renderD, parseTy_ident hw.1 hr hf, scalarOfName_none hw.2, strip]
  | .slice e, f, rest, hw, hf, hr => by
      rw [wf] at hw
      obtain ⟨f, rfl, h⟩ := fuel_sub hf
      have ih := parseTy_render e f (']' :: rest) hw h rfl
      simp only [renderD, List.cons_append, List.append_assoc, List.nil_append]
      unfold parseTy
      simp only [ih, strip]
  -- `[T; 4]`
  | .array e n, f, rest, hw, hf, hr => by
      rw [wf] at hw
      obtain ⟨f, rfl, h⟩ := fuel_sub hf
      have ih := parseTy_render e f (';' :: ' ' :: (natDigits n ++ (']' :: rest))) hw h rfl
      have hsp : spanP Char.isDigit (natDigits n ++ (']' :: rest)) = (natDigits n, ']' :: rest) :=
        spanP_append _ _ (natDigits_isDigit n) (by rintro _ _ ⟨⟩; decide)
      simp only [renderD, toList_semisp, List.cons_append, List.append_assoc, List.nil_append]
      unfold parseTy
      simp only [ih, hsp, digitsVal_natDigits, strip]
      rw [if_neg (natDigits_ne_nil n)]
  -- `*mut T`, `*const T`
  | .rawPtr m t, f, rest, hw, hf, hr => by
      rw [wf] at hw
      obtain ⟨f, rfl, h⟩ := fuel_sub hf
      have ih := parseTy_render t f rest hw h hr
      cases m with
      | true =>
        simp only [renderD, if_true, toList_starmut, List.cons_append, List.append_assoc]
        unfold parseTy
        simp only [dropPrefix?_append, ih, strip]
      | false =>
        -- `mut ` is tried first, and fails at the `c` of `const `
        have d : dropPrefix? "mut ".toList ("const ".toList ++ (renderD false t ++ rest)) =
            none := by
          rw [mutsp_cons, constsp_cons]
          exact dropPrefix?_head_ne _ _ (by decide)
        simp only [renderD, Bool.false_eq_true, if_false, toList_starconst, List.cons_append,
          List.append_assoc]
        unfold parseTy
        simp only [d, dropPrefix?_append, ih, strip]
  -- `()`
  | .tuple .nil, f, rest, _, hf, _ => by
      obtain ⟨f, rfl, -⟩ := fuel_sub hf
      rfl
  -- `(T,)`, `(T, U, …)`
  | .tuple (.cons t r), f, rest, hw, hf, hr => by
      rw [wf, wfTys, Bool.and_eq_true] at hw
      obtain ⟨f, rfl, h⟩ := fuel_sub hf
      have h := Nat.max_le.1 (Nat.le_of_succ_le h)
      -- `X`: how the tuple closes, `,)` after a single element
      obtain ⟨X, hX, hstr⟩ :
          ∃ X, (X = ',' :: ')' :: rest ∧ r = .nil ∨ X = ')' :: rest ∧ r ≠ .nil) ∧
            renderD false (.tuple (.cons t r)) ++ rest =
              '(' :: (renderD false t ++ (renderTysD false false r ++ X)) := by
        cases r with
        | nil => exact ⟨_, .inl ⟨rfl, rfl⟩, by simp [renderD, renderTysD, sepIf, tysLen]⟩
        | cons t' r' => exact ⟨_, .inr ⟨rfl, nofun⟩, by simp [renderD, renderTysD, sepIf, tysLen]⟩
      have hXf : follow X = true := by rcases hX with ⟨rfl, _⟩ | ⟨rfl, _⟩ <;> rfl
      have hXn : ∀ q, X ≠ ',' :: ' ' :: q := by rcases hX with ⟨rfl, _⟩ | ⟨rfl, _⟩ <;> simp
      have ih := parseTy_render t f (renderTysD false false r ++ X) hw.1 h.1 (follow_tys r X hXf)
      have ihr := parseTysTail_render r f X hw.2 h.2 hXf hXn
      rw [hstr]
      unfold parseTy
      simp only []
      split
      · -- the text after `(` is not `)…`: no type is read from that
        rename_i heq
        rw [heq, parseTy_rparen] at ih
        cases ih
      · simp only [ih, ihr]
        rcases hX with ⟨rfl, rfl⟩ | ⟨rfl, hne⟩
        · rfl
        · cases r with
          | nil => exact absurd rfl hne
          | cons t' r' => rfl
  -- `a::b::C`, `a::b::C<T, 'a, 4>`
  | .path al p i bs as, f, rest, hw, hf, hr => by
      simp only [wf, Bool.and_eq_true, decide_eq_true_eq, List.all_eq_true] at hw
      obtain ⟨⟨hlen, hid⟩, hwa⟩ := hw
      obtain ⟨f, rfl, h⟩ := fuel_sub hf
      match bs, hlen, hid with
      | s0 :: s1 :: more, _, hid =>
        have h0 := hid s0 (by simp)
        have hw0 := (isIdent_unpack h0).1
        -- the reading of the path segments, whatever follows them
        have key : ∀ Y : List Char, (∀ c r, Y = c :: r → isIdChar c = false ∧ c ≠ ':') →
            spanP isIdChar (s0.toList ++ (segStr (s1 :: more) ++ Y)) =
              (s0.toList, segStr (s1 :: more) ++ Y) ∧
            parseSegs (segStr (s1 :: more) ++ Y).length (segStr (s1 :: more) ++ Y) =
              (s1 :: more, Y) := by
          intro Y hY
          constructor
          · -- the first segment ends at the `:` of the next
            exact spanP_word hw0 (by rintro _ _ ⟨⟩; decide)
          · -- the fuel, the length of the text, is at least the number of segments
            have hfuel : (s1 :: more).length ≤ (segStr (s1 :: more) ++ Y).length := by
              have := segStr_length (s1 :: more)
              simp only [List.length_append]
              omega
            exact parseSegs_segStr _ _ _ hfuel (fun x hx => hid x (List.mem_cons_of_mem _ hx)) hY
        rw [renderD_path, joinSep_cons, List.append_assoc, List.append_assoc, parseTy_word hw0]
        unfold parseIdLed
        by_cases hnil : as = .nil
        · -- no `<…>`: what follows is not `<`
          subst hnil
          have k := key rest fun c r e => ⟨(follow_head hr e).notId, (follow_head hr e).neColon⟩
          simp only [argsPart, List.nil_append, k.1, k.2]
          rw [if_neg (word_ne_nil hw0), if_neg (ident_not_fnkw h0)]
          simp only [strip, stripArgs, String.ofList_toList]
          split
          · exact absurd rfl (follow_head hr rfl).neLt
          · rfl
        · -- `<…>` is one round of `parseArgsTail` on the whole list: its lemma, inverted, gives
          -- the two readings `parseIdLed` makes
          have hstr :
              argsPart as ++ rest = '<' :: (renderArgsD false true as ++ ('>' :: rest)) := by
            cases as with
            | nil => exact absurd rfl hnil
            | ty _ _ | lt _ _ | const _ _ => simp [argsPart]
          have k := key ('<' :: (renderArgsD false true as ++ ('>' :: rest)))
            (by rintro _ _ ⟨⟩; decide)
          have ih := parseArgsTail_render as (f + 1) ('>' :: rest) hwa (Nat.le_succ_of_le h)
            ⟨rest, rfl⟩
          rw [renderArgsD_false hnil, List.cons_append, List.cons_append] at ih
          obtain ⟨a, r1, as', h1, h2, h3⟩ := parseArgsTail_comma ih
          rw [hstr]
          simp only [k.1, k.2]
          rw [if_neg (word_ne_nil hw0), if_neg (ident_not_fnkw h0)]
          simp only [h1, h2, strip, h3, String.ofList_toList]
  -- `unsafe extern "C" fn(x: T, U) -> V`
  | .fnPtr ins out abi u, f, rest, hw, hf, hr => by
      simp only [wf, Bool.and_eq_true] at hw
      obtain ⟨⟨hwabi, hwins⟩, hwout⟩ := hw
      obtain ⟨f, rfl, h⟩ := fuel_sub hf
      obtain ⟨hfi, hfo⟩ := Nat.max_le.1 h
      rw [render_fnPtr]
      -- the leading keyword sends `parseIdLed` to `parseFn`
      obtain ⟨w, q, e, hwk, hq⟩ := fnPrefix_head abi u
        (renderInsD false true ins ++ (')' :: (renderOD false out ++ rest)))
      have hsp : spanP isIdChar (w ++ q) = (w, q) := by
        refine spanP_word (fnkw_word hwk).1 fun c r hc => ?_
        rcases hq c r hc with rfl | rfl <;> decide
      have step1 : parseTy (f + 3) (w ++ q) = parseFn (f + 1) (w ++ q) := by
        rw [parseTy_word (fnkw_word hwk).1]
        unfold parseIdLed
        simp only [hsp]
        rw [if_neg (word_ne_nil (fnkw_word hwk).1), if_pos hwk]
      rw [e, step1, ← e]
      unfold parseFn
      simp only [parseFnPrefix_render abi u _ hwabi]
      -- the inputs: empty, or what `parseInsTail` reads after a separator
      have hins :
          (if startsWithRParen
                (renderInsD false true ins ++ ')' :: (renderOD false out ++ rest)) = true then
              some (FnIns.nil, renderInsD false true ins ++ ')' :: (renderOD false out ++ rest))
            else parseInsTail (f + 1) (',' :: ' ' ::
              (renderInsD false true ins ++ ')' :: (renderOD false out ++ rest)))) =
            some (stripIns ins, ')' :: (renderOD false out ++ rest)) := by
        by_cases hnil : ins = .nil
        · subst hnil
          rfl
        · have ih := parseInsTail_render ins (f + 1) _ hwins (Nat.le_succ_of_le hfi)
            ⟨renderOD false out ++ rest, rfl⟩
          rw [renderInsD_false hnil, List.cons_append, List.cons_append] at ih
          rw [if_neg, ih]
          -- the first input does not begin with `)`: nothing is read from that
          intro h
          obtain ⟨q, hq⟩ := startsWithRParen_elim h
          rw [hq] at ih
          simp only [parseInsTail, parseIn_rparen] at ih
          cases ih
      simp only [parseInsTail] at hins
      simp only [hins]
      match out, hwout, hfo with
      | .none, _, _ =>
        have dA : dropPrefix? " -> ".toList rest = none := by
          rw [toList_arrow]
          cases rest with
          | nil => rfl
          | cons c r => exact dropPrefix?_head_ne _ _ (follow_head hr rfl).neSpace.symm
        simp only [renderOD_none, List.nil_append, dA, strip, stripO]
      | .some to, hwout, hfo =>
        rw [wfO] at hwout
        simp only [renderOD_some, List.append_assoc, dropPrefix?_append,
          parseTy_render to f rest hwout hfo hr, strip, stripO]
theorem parseArgsTail_render : ∀ (as : GArgs) (f : Nat) (X : List Char), wfArgs as = true → needArgs as ≤ f →
    (∃ q, X = '>' :: q) →
    parseArgsTail f (renderArgsD false false as ++ X) = some (stripArgs as, X)
  | .nil, f, _, _, hf, ⟨q, rfl⟩ => by
      obtain ⟨f, rfl⟩ := Nat.exists_eq_add_of_le' hf
      rfl
  -- `, T`…
  | .ty t r, f, _, hw, hf, ⟨q, rfl⟩ => by
      rw [wfArgs, Bool.and_eq_true] at hw
      obtain ⟨f, rfl, h⟩ := fuel_sub hf
      obtain ⟨f, rfl, ht⟩ := fuel_sub (Nat.max_le.1 h).1
      have hfX := follow_args r ('>' :: q) rfl
      simp only [renderArgsD, sepIf_false, List.cons_append, List.nil_append, List.append_assoc]
      exact parseArgsTail_step
        (parseArg_ty (render_head t _ hw.1 hfX) (parseTy_render t f _ hw.1 ht hfX))
        (parseArgsTail_render r (f + 1) _ hw.2 (Nat.max_le.1 h).2 ⟨q, rfl⟩)
  -- `, 'a`…
  | .lt l r, f, _, hw, hf, ⟨q, rfl⟩ => by
      rw [wfArgs, Bool.and_eq_true] at hw
      obtain ⟨f, rfl, h⟩ := fuel_sub hf
      obtain ⟨f, rfl⟩ := Nat.exists_eq_add_of_le' (Nat.le_trans (needArgs_pos r) h)
      have hfX := follow_args r ('>' :: q) rfl
      simp only [renderArgsD, sepIf_false, List.cons_append, List.nil_append, List.append_assoc]
      exact parseArgsTail_step (parseArg_lt l _ hw.1 (follow_notId hfX))
        (parseArgsTail_render r (f + 1) _ hw.2 h ⟨q, rfl⟩)
  -- `, 4`…, `, true`…
  | .const v r, f, _, hw, hf, ⟨q, rfl⟩ => by
      rw [wfArgs, Bool.and_eq_true] at hw
      obtain ⟨f, rfl, h⟩ := fuel_sub hf
      obtain ⟨f, rfl⟩ := Nat.exists_eq_add_of_le' (Nat.le_trans (needArgs_pos r) h)
      have hfX := follow_args r ('>' :: q) rfl
      simp only [renderArgsD, sepIf_false, List.cons_append, List.nil_append, List.append_assoc]
      exact parseArgsTail_step
        (parseArg_const v _ hw.1 fun c r e =>
          ⟨(follow_head hfX e).notId, (follow_head hfX e).notDigit⟩)
        (parseArgsTail_render r (f + 1) _ hw.2 h ⟨q, rfl⟩)
theorem parseInsTail_render : ∀ (ins : FnIns) (f : Nat) (X : List Char), wfIns ins = true → needIns ins ≤ f →
    (∃ q, X = ')' :: q) →
    parseInsTail f (renderInsD false false ins ++ X) = some (stripIns ins, X)
  | .nil, f, _, _, hf, ⟨q, rfl⟩ => by
      obtain ⟨f, rfl⟩ := Nat.exists_eq_add_of_le' hf
      rfl
  | .cons n t r, f, _, hw, hf, ⟨q, rfl⟩ => by
      simp only [wfIns, Bool.and_eq_true] at hw
      obtain ⟨⟨hwn, hwt⟩, hwr⟩ := hw
      obtain ⟨f, rfl, h⟩ := fuel_sub hf
      obtain ⟨f, rfl, ht⟩ := fuel_sub (Nat.max_le.1 h).1
      have hfX := follow_ins r (')' :: q) rfl
      have ih := parseTy_render t f _ hwt ht hfX
      have ihr := parseInsTail_render r (f + 1) _ hwr (Nat.max_le.1 h).2 ⟨q, rfl⟩
      match n, hwn with
      | none, _ =>
        -- `, T`…
        simp only [renderInsD, sepIf_false, List.cons_append, List.nil_append, List.append_assoc]
        unfold parseInsTail
        simp only [parseIn_unnamed (render_head t _ hwt hfX) ih, ihr, stripIns]
      | some x, hwn =>
        -- `, x: T`…
        simp only [renderInsD, sepIf_false, toList_colonsp, List.cons_append, List.nil_append,
          List.append_assoc]
        unfold parseInsTail
        simp only [parseIn_named hwn ih, ihr, stripIns]
theorem parseTysTail_render : ∀ (es : Tys) (f : Nat) (X : List Char), wfTys es = true → needTys es ≤ f →
    follow X = true → (∀ q, X ≠ ',' :: ' ' :: q) →
    parseTysTail f (renderTysD false false es ++ X) = some (stripTys es, X)
  | .nil, f, X, hw, hf, hX, hn => by
      obtain ⟨f, rfl⟩ := Nat.exists_eq_add_of_le' hf
      show parseTysTail (f + 1) X = _
      unfold parseTysTail
      split
      · exact (hn _ rfl).elim
      · rfl
  | .cons t r, f, X, hw, hf, hX, hn => by
      rw [wfTys, Bool.and_eq_true] at hw
      obtain ⟨f, rfl, h⟩ := fuel_sub hf
      have h := Nat.max_le.1 h
      have ih := parseTy_render t f (renderTysD false false r ++ X) hw.1 h.1 (follow_tys r X hX)
      have ihr := parseTysTail_render r f X hw.2 h.2 hX hn
      simp only [renderTysD, sepIf_false, List.cons_append, List.nil_append, List.append_assoc]
      unfold parseTysTail
      simp only [ih, ihr, stripTys]
end

theorem render_len_pos (t : Ty) (hw : wf t = true) : 1 ≤ (renderD false t).length := by
  obtain ⟨c, r, h, _⟩ := (render_head t [] hw rfl).first
  rw [List.append_nil] at h
  rw [h]; simp

theorem renderGLt_len_pos (l : GLt) : 1 ≤ (renderGLt false l).length := by
  cases l with
  | static => show 1 ≤ "'static".toList.length; rw [toList_qstatic']; simp
  | inferred => show 1 ≤ "'_".toList.length; rw [toList_qus']; simp
  | named n => show 1 ≤ ('\'' :: n.toList).length; simp

theorem wfConst_len_pos {v : String} (h : wfConst v = true) : 1 ≤ v.toList.length := by
  simp only [wfConst, Bool.or_eq_true, beq_iff_eq, Bool.and_eq_true, bne_iff_ne, ne_eq] at h
  rcases h with (rfl | rfl) | h
  · decide +kernel
  · decide +kernel
  · exact List.length_pos_iff.mpr h.1

mutual
theorem need_le : ∀ (t : Ty), wf t = true → need t ≤ 2 * (renderD false t).length
  | .scalar _, hw | .generic _, hw => by
      have := render_len_pos _ hw
      simp only [need]
      omega
  | .ref m l t, hw => by
      have := need_le t (Bool.and_eq_true_iff.mp hw).2
      simp only [need, renderD, List.length_cons, List.length_append]
      omega
  | .slice t, hw | .array t _, hw => by
      have := need_le t hw
      simp only [need, renderD, List.length_cons, List.length_append]
      omega
  | .rawPtr m t, hw => by
      have := need_le t hw
      cases m <;>
        simp only [need, renderD, toList_starmut, toList_starconst, List.length_append,
          List.length_cons, if_true, Bool.false_eq_true, if_false] <;>
        omega
  | .tuple es, hw => by
      have := needTys_le es true hw
      simp only [need, renderD, List.length_cons, List.length_append]
      omega
  | .fnPtr ins out abi u, hw => by
      simp only [wf, Bool.and_eq_true] at hw
      have h1 := needIns_le ins true hw.1.2
      have h2 := needO_le out hw.2
      simp only [need, renderD, fnp_cons, List.length_append, List.length_cons]
      omega
  | .path al p i bs as, hw => by
      simp only [wf, Bool.and_eq_true, decide_eq_true_eq] at hw
      have ha := needArgs_le as true hw.2
      match bs, hw.1.1 with
      | s0 :: s1 :: more, _ =>
        rw [renderD_path, joinSep_cons]
        simp only [need, segStr, List.length_append, List.length_cons]
        cases as <;>
          simp only [needArgs, argsPart, List.length_cons, List.length_append,
            List.length_nil] at ha ⊢ <;>
          omega
theorem needArgs_le : ∀ (as : GArgs) (first : Bool), wfArgs as = true →
    needArgs as ≤ 2 * (renderArgsD false first as).length + 2
  | .nil, _, _ => by simp [needArgs]
  | .ty t r, first, hw => by
      simp only [wfArgs, Bool.and_eq_true] at hw
      have h1 := need_le t hw.1
      have h2 := needArgs_le r false hw.2
      have h3 := render_len_pos t hw.1
      simp only [needArgs, renderArgsD, List.length_append]
      omega
  | .lt l r, first, hw => by
      simp only [wfArgs, Bool.and_eq_true] at hw
      have h2 := needArgs_le r false hw.2
      have h3 := renderGLt_len_pos l
      simp only [needArgs, renderArgsD, List.length_append]
      omega
  | .const v r, first, hw => by
      simp only [wfArgs, Bool.and_eq_true] at hw
      have h2 := needArgs_le r false hw.2
      have h3 := wfConst_len_pos hw.1
      simp only [needArgs, renderArgsD, List.length_append]
      omega
theorem needTys_le : ∀ (es : Tys) (first : Bool), wfTys es = true →
    needTys es ≤ 2 * (renderTysD false first es).length + 2
  | .nil, _, _ => by simp [needTys]
  | .cons t r, first, hw => by
      simp only [wfTys, Bool.and_eq_true] at hw
      have h1 := need_le t hw.1
      have h2 := needTys_le r false hw.2
      have h3 := render_len_pos t hw.1
      simp only [needTys, renderTysD, List.length_append]
      omega
theorem needIns_le : ∀ (ins : FnIns) (first : Bool), wfIns ins = true →
    needIns ins ≤ 2 * (renderInsD false first ins).length + 2
  | .nil, _, _ => by simp [needIns]
  | .cons n t r, first, hw => by
      simp only [wfIns, Bool.and_eq_true] at hw
      have h1 := need_le t hw.1.2
      have h2 := needIns_le r false hw.2
      have h3 := render_len_pos t hw.1.2
      simp only [needIns, renderInsD, List.length_append]
      omega
theorem needO_le : ∀ (o : OTy), wfO o = true → needO o ≤ 2 * (renderOD false o).length
  | .none, _ => by simp [needO]
  | .some t, hw => by
      have := need_le t hw
      simp only [needO, renderOD_some, List.length_append]
      omega
end

end Pxv.Ty
