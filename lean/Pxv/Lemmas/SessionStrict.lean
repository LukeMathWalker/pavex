import Pxv.Lemmas.SessionRefine
/-! The strict specification (with the recorded finding F7) and the ideal one agree on every
history in which no sync reports F7; and neither ever panics. -/
set_option linter.unusedSectionVars false
namespace Pxv.Session
open Spec

variable {κ ν : Type} [DecidableEq κ]

def Res.isF7 : Res ν → Bool
  | .syncErr e => decide (e = f7)
  | _ => false

def Fin.isF7 : Fin κ ν → Bool
  | .err (.sync e) => decide (e = f7)
  | _ => false

theorem flush_strict_some (cfg : Config) (S : SSess κ ν) (W : SWorld κ ν) (x : SSess κ ν × SWorld κ ν)
    (h : flush cfg true S W = some x) : flush cfg false S W = some x := by
  obtain ⟨id, cli, dirty, srv, inv⟩ := S
  cases srv with
  | unseen =>
    cases id with
    | toBeRenamed o n =>
      -- the one place where `strict` is read: no record under the old id
      simp only [flush] at h ⊢
      split at h
      · exact h
      · cases h
    | _ => exact h
  | _ => exact h

theorem step_strict (cfg : Config) (op : Op κ ν) (S : SSess κ ν) (W : SWorld κ ν)
    (h : (Spec.step cfg true op S W).1.isF7 = false) :
    Spec.step cfg false op S W = Spec.step cfg true op S W := by
  cases op with
  | sync =>
    simp only [Spec.step] at h ⊢
    cases hf : flush cfg true S W with
    | none =>
      rw [hf] at h
      cases h
    | some x => rw [flush_strict_some cfg S W x hf]
  | _ => rfl

theorem runOps_strict (cfg : Config) (ops : List (Op κ ν)) (S : SSess κ ν) (W : SWorld κ ν)
    (h : ∀ r ∈ (Spec.runOps cfg true ops S W).1, Res.isF7 r = false) :
    Spec.runOps cfg false ops S W = Spec.runOps cfg true ops S W := by
  induction ops generalizing S W with
  | nil => rfl
  | cons op ops ih =>
    simp only [Spec.runOps] at h ⊢
    rw [step_strict cfg op S W (h _ List.mem_cons_self),
      ih _ _ fun r hr => h r (List.mem_cons_of_mem _ hr)]

theorem finalizeSession_strict (cfg : Config) (S : SSess κ ν) (W : SWorld κ ν)
    (h : (Spec.finalizeSession cfg true S W).1.isF7 = false) :
    Spec.finalizeSession cfg false S W = Spec.finalizeSession cfg true S W := by
  unfold Spec.finalizeSession Spec.finalize at h ⊢
  cases hf : flush cfg true S W with
  | none =>
    rw [hf] at h
    cases h
  | some x => rw [flush_strict_some cfg S W x hf]

theorem runRequest_strict (cfg : Config) (incoming : Option (Nat × Map κ ν)) (ops : List (Op κ ν)) (W : SWorld κ ν)
    (h1 : ∀ r ∈ (Spec.runRequest cfg true incoming ops W).1, Res.isF7 r = false)
    (h2 : (Spec.runRequest cfg true incoming ops W).2.1.isF7 = false) :
    Spec.runRequest cfg false incoming ops W = Spec.runRequest cfg true incoming ops W := by
  simp only [Spec.runRequest] at h1 h2 ⊢
  rw [runOps_strict cfg ops _ _ h1, finalizeSession_strict cfg _ _ h2]

/-- No F7 refusal anywhere in what the (strict) history shows. -/
def NoF7 (outs : List (List (Res ν) × Fin κ ν)) : Prop :=
  ∀ o ∈ outs, (∀ r ∈ o.1, Res.isF7 r = false) ∧ Fin.isF7 o.2 = false

theorem runHistory_strict (cfg : Config) (reqs : List (Req κ ν)) (c : Client κ ν) (W : SWorld κ ν)
    (h : NoF7 (Spec.runHistory cfg true reqs c W)) :
    Spec.runHistory cfg false reqs c W = Spec.runHistory cfg true reqs c W := by
  induction reqs generalizing c W with
  | nil => rfl
  | cons rq rest ih =>
    simp only [Spec.runHistory] at h ⊢
    obtain ⟨h1, h2⟩ := h _ List.mem_cons_self
    rw [runRequest_strict _ _ _ _ h1 h2, ih _ _ fun o ho => h o (List.mem_cons_of_mem _ ho)]

theorem Spec.runOps_no_panic (cfg : Config) (strict : Bool) (ops : List (Op κ ν)) (S : SSess κ ν) (W : SWorld κ ν) :
    ∀ r ∈ (Spec.runOps cfg strict ops S W).1, Res.isPanic r = false := by
  induction ops generalizing S W with
  | nil => exact fun _ h => nomatch h
  | cons op ops ih =>
    simp only [Spec.runOps, List.mem_cons, forall_eq_or_imp]
    exact ⟨Spec.step_not_panic cfg strict op S W, ih _ _⟩

theorem Spec.finalize_no_panic (cfg : Config) (strict : Bool) (S : SSess κ ν) (W : SWorld κ ν) :
    (Spec.finalize cfg strict S W).1 ≠ .panic := by
  unfold Spec.finalize
  (repeat' split) <;> nofun

theorem Spec.finalizeSession_no_panic (cfg : Config) (strict : Bool) (S : SSess κ ν) (W : SWorld κ ν) :
    (Spec.finalizeSession cfg strict S W).1 ≠ .panic := by
  have := Spec.finalize_no_panic cfg strict S W
  unfold Spec.finalizeSession
  generalize Spec.finalize cfg strict S W = m at *
  obtain ⟨f, W'⟩ := m
  cases f with
  | panic => exact this
  | set | removal =>
    simp only
    split <;> nofun
  | _ => nofun

theorem Spec.runHistory_no_panic (cfg : Config) (strict : Bool) (reqs : List (Req κ ν)) (c : Client κ ν) (W : SWorld κ ν) :
    ∀ o ∈ Spec.runHistory cfg strict reqs c W, o.2 ≠ .panic ∧ ∀ r ∈ o.1, Res.isPanic r = false := by
  induction reqs generalizing c W with
  | nil => exact fun _ h => nomatch h
  | cons rq rest ih =>
    simp only [Spec.runHistory, Spec.runRequest, List.mem_cons, forall_eq_or_imp]
    exact ⟨⟨Spec.finalizeSession_no_panic _ _ _ _, Spec.runOps_no_panic _ _ _ _ _⟩, ih _ _⟩

end Pxv.Session
