import Pxv.Model.Domain
import Pxv.Lemmas.Domain
/-!
C20, the meaning half: a grammatical guard is the dot-joined spelling of well-formed labels
`GLabel`, and every function between the guard and the router's verdict (`guardLabels`, `pattern`,
`parsePat`, `normHost`, `segsMatch`) is computed on that form; `match_iff` composes the results.
-/
namespace Pxv.Domain

theorem splitSlash_eq : ∀ l, splitSlash l = splitSep '/' l
  | [] => rfl
  | c :: cs => by rw [splitSlash, splitSep, splitSlash_eq cs]; cases splitSep '/' cs <;> rfl

theorem splitSlash_joinSep {ls : List (List Char)} (hne : ls ≠ []) (h : ∀ l ∈ ls, '/' ∉ l) :
    splitSlash (joinSep '/' ls) = ls :=
  (splitSlash_eq _).trans (splitSep_joinSep hne h)

theorem span_append {α} {p : α → Bool} {a r : List α} (ha : ∀ c ∈ a, p c = true)
    (hr : ∀ c, r.head? = some c → p c = false) :
    (a ++ r).takeWhile p = a ∧ (a ++ r).dropWhile p = r := by
  rw [List.takeWhile_append_of_pos ha, List.dropWhile_append_of_pos ha]
  cases r with
  | nil => simp
  | cons c r => simp [hr c rfl]

theorem span_ident {name : List Char} (hid : isIdent name = true) (rest : List Char) :
    (name ++ '}' :: rest).takeWhile (· ≠ '}') = name ∧
      (name ++ '}' :: rest).dropWhile (· ≠ '}') = '}' :: rest :=
  span_append (fun c hc => by simpa using (ident_plain hid hc).cbrace) (by simp)

theorem labelsG_struct {f : Bool} {body : List Char} {n : Nat} (h : LabelsG f body n) :
    ∃ gls : List GLabel, gls ≠ [] ∧ (∀ gl ∈ gls, gl.WF) ∧
      body = joinSep '.' (gls.map GLabel.str) ∧
      (f = false → ∀ gl ∈ gls, gl.isCatchAll = false) ∧
      (∀ gl ∈ gls.tail, gl.isCatchAll = false) := by
  induction h with
  | @one f l n hl =>
    obtain ⟨gl, hwf, hstr, hca⟩ := labelG_struct hl
    exact ⟨[gl], by simp, by simpa using hwf, by simp [joinSep, hstr], by simpa using hca, by simp⟩
  | @cons f l s n m hl _ ih =>
    obtain ⟨gl, hwf, hstr, hca⟩ := labelG_struct hl
    obtain ⟨gls, hne, hwfs, hbody, hnoca, _⟩ := ih
    refine ⟨gl :: gls, by simp, List.forall_mem_cons.mpr ⟨hwf, hwfs⟩, ?_,
      fun hf => List.forall_mem_cons.mpr ⟨hca hf, hnoca rfl⟩, hnoca rfl⟩
    rw [List.map_cons, joinSep_cons_ne (by simpa using hne), ← hstr, ← hbody]

theorem parseLabel_param {t : List Char} (h : t.head? ≠ some '*') :
    parseLabel ('{' :: t) = .param (t.takeWhile (· ≠ '}')) ((t.dropWhile (· ≠ '}')).drop 1) := by
  unfold parseLabel
  split
  · rename_i t' heq
    cases heq
    exact absurd rfl h
  · rename_i heq
    cases heq
    rfl
  · rename_i hno
    exact absurd rfl (hno t)

theorem parseLabel_str {gl : GLabel} (h : gl.WF) : parseLabel gl.str = gl := by
  cases gl with
  | lit s =>
    obtain ⟨hne, hall⟩ := h
    cases s with
    | nil => exact absurd rfl hne
    | cons c cs =>
      have hc : c ≠ '{' := (labelChar_plain (hall c (by simp))).obrace
      simp [GLabel.str, parseLabel, hc]
  | param name rest =>
    have tw := span_ident h.1 rest
    show parseLabel ('{' :: (name ++ '}' :: rest)) = _
    rw [parseLabel_param (ident_head_ne_star h.1 _), tw.1, tw.2]
    rfl
  | catchAll name rest =>
    simp only [GLabel.str, parseLabel, List.cons_append, span_ident h.1 rest]
    rfl

theorem guardLabels_of_struct {gls : List GLabel} (hne : gls ≠ []) (hwf : ∀ gl ∈ gls, gl.WF) :
    (splitDots (joinSep '.' (gls.map GLabel.str))).map parseLabel = gls := by
  rw [splitDots_joinSep (by simpa using hne), List.map_map]
  · conv => rhs; rw [← List.map_id gls]
    exact List.map_congr_left fun g hg => parseLabel_str (hwf g hg)
  · intro l hl hm
    obtain ⟨g, hg, rfl⟩ := List.mem_map.mp hl
    exact (GLabel.str_ne (hwf g hg) hm).1 rfl

def GLabel.seg : GLabel → Seg
  | .lit s => .lit s.reverse
  | .param name rest => .param rest.reverse name
  | .catchAll name rest => .catchAll rest.reverse name

def Seg.str : Seg → List Char
  | .lit s => s
  | .param pre name => pre ++ '{' :: name ++ ['}']
  | .catchAll pre name => pre ++ '{' :: '*' :: name ++ ['}']

theorem patGo_plain {xs ys : List Char} (h : ∀ c ∈ xs, labelChar c = true) :
    patGo (xs.reverse ++ ys) none = xs.reverse ++ patGo ys none := by
  induction xs generalizing ys with
  | nil => rfl
  | cons c cs ih =>
    have hc := labelChar_plain (h c (by simp))
    rw [List.reverse_cons, List.append_assoc, ih (fun x hx => h x (by simp [hx]))]
    simp [patGo, hc.cbrace, hc.dot]

theorem patGo_name {nm ys acc : List Char} (h : ∀ c ∈ nm, c ≠ '{') :
    patGo (nm ++ '{' :: ys) (some acc) = '{' :: (nm.reverse ++ acc) ++ '}' :: patGo ys none := by
  induction nm generalizing acc with
  | nil => simp [patGo]
  | cons c cs ih =>
    have hc : c ≠ '{' := h c (by simp)
    simp only [List.cons_append, patGo, hc, if_false]
    rw [ih (fun x hx => h x (by simp [hx]))]
    simp

/-- A label with a parameter (`nm` is its name, after `*` if it is a catch-all), reversed. -/
theorem patGo_wild {rest nm ys : List Char} (hr : ∀ c ∈ rest, labelChar c = true)
    (hn : ∀ c ∈ nm, c ≠ '{') :
    patGo (rest.reverse ++ '}' :: (nm.reverse ++ '{' :: ys)) none
      = rest.reverse ++ '{' :: nm ++ '}' :: patGo ys none := by
  rw [patGo_plain hr, patGo, if_neg (by decide), if_pos rfl, patGo_name (by simpa using hn)]
  simp

theorem patGo_label {gl : GLabel} (h : gl.WF) (ys : List Char) :
    patGo (gl.str.reverse ++ ys) none = gl.seg.str ++ patGo ys none := by
  cases gl with
  | lit s => exact patGo_plain h.2
  | param name rest =>
    simpa [GLabel.str, GLabel.seg, Seg.str] using
      patGo_wild (ys := ys) h.2 (fun c hc => (ident_plain h.1 hc).obrace)
  | catchAll name rest =>
    simpa [GLabel.str, GLabel.seg, Seg.str] using
      patGo_wild (nm := '*' :: name) (ys := ys) h.2 (by
        intro c hc
        rcases List.mem_cons.mp hc with rfl | hc
        · decide
        · exact (ident_plain h.1 hc).obrace)

theorem patGo_join {gls : List GLabel} (hwf : ∀ gl ∈ gls, gl.WF) (ys : List Char) :
    patGo ((joinSep '.' (gls.map GLabel.str)).reverse ++ ys) none
      = joinSep '/' (gls.reverse.map (fun g => g.seg.str)) ++ patGo ys none := by
  induction gls generalizing ys with
  | nil => rfl
  | cons g gs ih =>
    cases gs with
    | nil => simpa [joinSep] using patGo_label (hwf g (by simp)) ys
    | cons g' gs' =>
      rw [List.map_cons, joinSep_cons_ne (by simp), List.reverse_append, List.reverse_cons,
        List.append_assoc, List.append_assoc, ih (fun x hx => hwf x (by simp [hx])),
        List.reverse_cons (a := g), List.map_append, List.map_singleton, joinSep_snoc (by simp)]
      simp [patGo, patGo_label (hwf g (by simp))]

theorem pattern_struct {gls : List GLabel} (hwf : ∀ gl ∈ gls, gl.WF) :
    pattern (joinSep '.' (gls.map GLabel.str)) =
      joinSep '/' (gls.reverse.map (fun g => g.seg.str)) := by
  simpa [pattern, patGo] using patGo_join hwf []

/-- A segment with a wildcard, as `matchit_pattern` writes it. -/
theorem parseSeg_wild {rest name : List Char} (star : Bool) (hr : ∀ c ∈ rest, labelChar c = true)
    (hid : isIdent name = true) :
    parseSeg (rest.reverse ++ '{' :: ((if star then ['*'] else []) ++ (name ++ ['}']))) =
      some (if star then .catchAll rest.reverse name else .param rest.reverse name) := by
  have tw : ∀ w : List Char, (rest.reverse ++ '{' :: w).takeWhile (· ≠ '{') = rest.reverse ∧
      (rest.reverse ++ '{' :: w).dropWhile (· ≠ '{') = '{' :: w := fun w =>
    span_append (fun c hc => by simpa using (labelChar_plain (hr c (by simpa using hc))).obrace)
      (by simp)
  have nc : rest.reverse.contains '}' = false := by
    simpa using fun hm => (labelChar_plain (hr _ hm)).cbrace rfl
  have n1 : name.contains '{' = false := by simpa using fun hm => (ident_plain hid hm).obrace rfl
  have n2 : name.contains '*' = false := by simpa using fun hm => (ident_plain hid hm).star rfl
  have hh : (name ++ ['}']).head? ≠ some '*' := ident_head_ne_star hid _
  have tw2 := span_ident hid []
  cases star
  · simp only [parseSeg, Bool.false_eq_true, if_false, List.nil_append, (tw _).1, (tw _).2, nc, hh,
      tw2.1, tw2.2, n1, n2]
    simp [(isIdent_spec hid).1]
  · simp only [parseSeg, if_true, List.cons_append, List.nil_append, (tw _).1, (tw _).2, nc,
      List.head?_cons, List.drop_succ_cons, List.drop_zero, tw2.1, tw2.2, n1, n2]
    simp [(isIdent_spec hid).1]

theorem parseSeg_str {g : GLabel} (h : g.WF) : parseSeg g.seg.str = some g.seg := by
  cases g with
  | lit s =>
    have tw := span_append (p := (· ≠ '{')) (a := s.reverse) (r := [])
      (fun c hc => by simpa using (labelChar_plain (h.2 c (by simpa using hc))).obrace) (by simp)
    have nc : s.reverse.contains '}' = false := by
      simpa using fun hm => (labelChar_plain (h.2 _ hm)).cbrace rfl
    rw [List.append_nil] at tw
    simp only [GLabel.seg, Seg.str, parseSeg, tw.1, tw.2, nc]
    simp
  | param name rest => simpa [GLabel.seg, Seg.str] using parseSeg_wild false h.2 h.1
  | catchAll name rest => simpa [GLabel.seg, Seg.str] using parseSeg_wild true h.2 h.1

theorem parseSegs_map {G : List GLabel} (hwf : ∀ g ∈ G, g.WF) :
    parseSegs (G.map (fun g => g.seg.str)) = some (G.map GLabel.seg) := by
  induction G with
  | nil => rfl
  | cons g gs ih =>
    simp only [List.map_cons, parseSegs, parseSeg_str (hwf g (by simp)),
      ih (fun x hx => hwf x (by simp [hx]))]

theorem mem_seg_str {g : GLabel} {c : Char} (h : c ∈ g.seg.str) : c ∈ g.str := by
  cases g with
  | lit s => exact List.mem_reverse.mp h
  | param name rest =>
    simp only [GLabel.seg, Seg.str, List.mem_append, List.mem_cons, List.mem_reverse,
      List.not_mem_nil, or_false] at h
    rcases h with (h | h | h) | h <;> simp [GLabel.str, h]
  | catchAll name rest =>
    simp only [GLabel.seg, Seg.str, List.mem_append, List.mem_cons, List.mem_reverse,
      List.not_mem_nil, or_false] at h
    rcases h with (h | h | h | h) | h <;> simp [GLabel.str, h]

theorem seg_isCatchAll (g : GLabel) : g.seg.isCatchAll = g.isCatchAll := by
  cases g <;> rfl

theorem parsePat_struct {G : List GLabel} (hne : G ≠ []) (hwf : ∀ g ∈ G, g.WF)
    (hca : ∀ g ∈ G.dropLast, g.isCatchAll = false) :
    parsePat (joinSep '/' (G.map (fun g => g.seg.str))) = some (G.map GLabel.seg) := by
  unfold parsePat
  rw [splitSlash_joinSep (by simpa using hne), parseSegs_map hwf]
  · have : ((G.map GLabel.seg).dropLast.any Seg.isCatchAll) = false := by
      rw [List.any_eq_false]
      intro s hs
      rw [← List.map_dropLast] at hs
      obtain ⟨g, hg, rfl⟩ := List.mem_map.mp hs
      rw [seg_isCatchAll, hca g hg]
      simp
    simp [this]
  · intro l hl hm
    obtain ⟨g, hg, rfl⟩ := List.mem_map.mp hl
    exact (GLabel.str_ne (hwf g hg) (mem_seg_str hm)).2 rfl

theorem trimDots_of_last {s : List Char} (h : s.getLast? ≠ some '.') : trimDots s = s := by
  unfold trimDots
  rw [List.getLast?_eq_head?_reverse] at h
  cases hr : s.reverse with
  | nil => simp [List.reverse_eq_nil_iff.mp hr]
  | cons c cs =>
    rw [hr] at h
    have hc : c ≠ '.' := by simpa using h
    simp only [List.dropWhile_cons, beq_iff_eq, hc, if_false]
    rw [← hr, List.reverse_reverse]

theorem stripDot_of_last {s : List Char} (h : s.getLast? ≠ some '.') : stripDot s = s := by
  simp [stripDot, h]

theorem stripDot_snoc_dot (b : List Char) : stripDot (b ++ ['.']) = b := by
  simp [stripDot]

/-- A grammatical guard is stored as its labels joined by dots (the trailing dot of the absolute
    form dropped), and the one-dot-insensitive reading used by `Fits` sees the same. -/
theorem grammar_body {g : List Char} (hg : Grammar g) :
    ∃ body n, LabelsG true body n ∧ n ≤ 253 ∧ trimDots g = body ∧ stripDot g = body := by
  cases hg with
  | relative hb hn =>
    have hl := (labelsG_last hb).2
    exact ⟨g, _, hb, hn, trimDots_of_last hl, stripDot_of_last hl⟩
  | @absolute body n hb hn =>
    exact ⟨body, n, hb, hn, by simpa [trimDots] using trimDots_of_last (labelsG_last hb).2,
      stripDot_snoc_dot _⟩

theorem map_toSlash_nodot {l : List Char} (h : '.' ∉ l) :
    l.map (fun c => if c = '.' then '/' else c) = l := by
  induction l with
  | nil => rfl
  | cons c cs ih =>
    have hc : c ≠ '.' := fun e => h (by simp [e])
    simp [hc, ih (fun hm => h (by simp [hm]))]

theorem path_of_labels (ls : List (List Char)) (hnd : ∀ l ∈ ls, '.' ∉ l) :
    ((joinSep '.' ls).map (fun c => if c = '.' then '/' else c)).reverse
      = joinSep '/' (ls.map List.reverse).reverse := by
  induction ls with
  | nil => rfl
  | cons l ls ih =>
    have hd := map_toSlash_nodot (hnd l (by simp))
    cases ls with
    | nil => simp [joinSep, hd]
    | cons l' ls' =>
      rw [joinSep_cons_ne (by simp), List.map_cons, List.reverse_cons, joinSep_snoc (by simp),
        ← ih (fun x hx => hnd x (by simp [hx]))]
      simp [hd]

theorem mem_stripDot {s : List Char} {c : Char} (h : c ∈ stripDot s) : c ∈ s := by
  unfold stripDot at h
  split at h
  · exact List.dropLast_subset _ h
  · exact h

theorem path_normHost {h : List Char} (hs : '/' ∉ h) :
    splitSlash (normHost h) = ((hostLabels h).reverse).map List.reverse := by
  unfold normHost hostLabels
  have := path_of_labels (splitDots (stripDot h)) (fun l hl => splitDots_mem_nodot hl)
  rw [joinSep_splitDots] at this
  rw [this, List.map_reverse, splitSlash_joinSep (by simpa using splitDots_ne_nil _)]
  intro l hl hm
  obtain ⟨l', hl', rfl⟩ := List.mem_map.mp (List.mem_reverse.mp hl)
  refine hs (mem_stripDot ?_)
  rw [← joinSep_splitDots (stripDot h)]
  exact mem_joinSep (List.mem_reverse.mp hm) hl'

/-- The wildcard test of `segsMatch`, read on the unreversed label; `q`: a catch-all may take
    further labels instead of a character. -/
theorem suffix_and_iff {rest l : List Char} {q : Prop} :
    (rest <:+ l ∧ (rest.length < l.length ∨ q)) ↔ ∃ x, l = x ++ rest ∧ (x ≠ [] ∨ q) := by
  constructor
  · rintro ⟨⟨x, rfl⟩, h⟩
    exact ⟨x, rfl, h.imp_left (by rintro h rfl; simp at h)⟩
  · rintro ⟨x, rfl, h⟩
    exact ⟨⟨x, rfl⟩, h.imp_left fun hx => by simpa using List.length_pos_iff.mpr hx⟩

theorem segsMatch_iff_fitsFrom (G : List GLabel) (H : List (List Char)) :
    segsMatch (G.map GLabel.seg) (H.map List.reverse) = true ↔ fitsFrom G H := by
  induction G generalizing H with
  | nil => cases H <;> simp [segsMatch, fitsFrom]
  | cons g gs ih =>
    cases H with
    | nil => cases g <;> simp [segsMatch, fitsFrom, GLabel.seg]
    | cons l ls =>
      cases g with
      | lit s => simp [GLabel.seg, segsMatch, fitsFrom, ih ls]
      | param name rest =>
        have := suffix_and_iff (rest := rest) (l := l) (q := False)
        simp only [or_false] at this
        simp [GLabel.seg, segsMatch, fitsFrom, ih ls, this, and_comm]
      | catchAll name rest =>
        have := suffix_and_iff (rest := rest) (l := l) (q := ls ≠ [])
        simp [GLabel.seg, segsMatch, fitsFrom, ← this, and_assoc]

/-- `Fits` is decided by running the segment matcher on the labels. -/
instance (g h : List Char) : Decidable (Fits g h) :=
  decidable_of_iff _ (segsMatch_iff_fitsFrom _ _)

end Pxv.Domain
