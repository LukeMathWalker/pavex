import Pxv.Model.Complex
import Pxv.Lemmas.InsertClone
import Pxv.Lemmas.Borrow
/-! `complexCheck` (Model/Complex.lean, the mirror of `complex_borrow_check`): what one visited node does, and what
the two loops keep invariant: on graphs where nothing is contended, and on graphs where whatever is contended may be
cloned. -/
namespace Pxv.CG
open Graph

theorem mem_dedup {l : List Nat} {x : Nat} : x ∈ dedup l ↔ x ∈ l := by
  unfold dedup
  rw [mem_union]
  simp

theorem mem_predsAdj {g : Graph} {n x : Nat} : x ∈ predsAdj g n ↔ x ∈ g.preds n := by
  unfold predsAdj Graph.preds
  simp

theorem cloneFor_g (s : Cx) (n b : Nat) : (s.cloneFor n b).g = (insertClone s.g b n).1 := rfl

/-- one visited node, by what blocks it (`bl`) and the strategy: finished; parked; a contended clone-if-necessary input is
    cloned for it; nothing may be cloned; reported. `tv` is the new work list. -/
theorem visit_cases (s : Cx) (n : Nat) : ∃ tv bl, bl = (dedup (predsAdj s.g n)).filter (s.blocked n) ∧
    ((bl = [] ∧ s.visit n =
        ({ s with toVisit := tv, own := s.own.removeAllBorrows n, finished := union s.finished [n] }, false)) ∨
     (bl ≠ [] ∧ s.ctl.strat = .park ∧ s.visit n = ({ s with toVisit := tv, parked := union s.parked [n] }, false)) ∨
     (s.ctl.strat = .clone ∧ ∃ b, b ∈ s.g.preds n ∧ s.blocked n b = true ∧ (s.g.node b).cloneable = true ∧
        s.visit n = ({ ({ s with toVisit := tv } : Cx).cloneFor n b with parked := union s.parked [n] }, true)) ∨
     (bl ≠ [] ∧ s.ctl.strat = .clone ∧ (∀ b ∈ bl, (s.g.node b).cloneable = false) ∧
        s.visit n = ({ s with toVisit := tv, parked := union s.parked [n] }, s.ctl.flag)) ∨
     (bl ≠ [] ∧ s.ctl.strat = .error ∧ s.visit n = ({ s with toVisit := tv, diags := s.diags ++ [(n, bl)] }, false))) := by
  refine ⟨union s.toVisit (((dedup (predsAdj s.g n)).filter (fun p => !s.blocked n p)).filter
    (fun p => !(s.finished.contains p || s.parked.contains p))), _, rfl, ?_⟩
  generalize hr : s.visit n = r
  unfold Cx.visit at hr
  simp only [] at hr
  split at hr
  · rename_i h
    exact Or.inl ⟨List.isEmpty_iff.1 h, hr.symm⟩
  · rename_i h
    have hne : (dedup (predsAdj s.g n)).filter (s.blocked n) ≠ [] :=
      fun e => h (List.isEmpty_iff.2 e)
    right
    split at hr
    · rename_i hs
      exact Or.inl ⟨hne, hs, hr.symm⟩
    · rename_i hs
      split at hr
      · rename_i b hfind
        obtain ⟨hbp, hbb⟩ := List.mem_filter.1 (List.mem_of_find?_eq_some hfind)
        have hbc : (s.g.node b).cloneable = true := by simpa using List.find?_some hfind
        exact Or.inr (Or.inl ⟨hs, b, mem_predsAdj.1 (mem_dedup.1 hbp), hbb, hbc, hr.symm⟩)
      · rename_i hnone
        have hno : ∀ b ∈ (dedup (predsAdj s.g n)).filter (s.blocked n),
            (s.g.node b).cloneable = false :=
          fun b hb => by simpa using List.find?_eq_none.1 hnone b hb
        exact Or.inr (Or.inr (Or.inl ⟨hne, hs, hno, hr.symm⟩))
    · rename_i hs
      exact Or.inr (Or.inr (Or.inr ⟨hne, hs, hr.symm⟩))

theorem Cx.loop_induct {P : Cx → Prop} (hpop : ∀ s, P s → P { s with toVisit := s.toVisit.dropLast })
    (hvisit : ∀ s n, P s → P (s.visit n).1) (hout : ∀ s, P s → P { s with fuelOut := true })
    (hend : ∀ s s', P s → s.endRound = some s' → P s') : ∀ (fuel : Nat) (s : Cx), P s → P (Cx.loop fuel s) := by
  have hv : ∀ (fuel : Nat) (s : Cx), P s → P (Cx.visiting fuel s) := by
    intro fuel
    induction fuel with
    | zero => exact hout
    | succ f ih =>
      intro s h
      unfold Cx.visiting
      split
      · exact h
      · simp only []
        split
        · exact hvisit _ _ (hpop s h)
        · exact ih _ (hvisit _ _ (hpop s h))
  intro fuel
  induction fuel with
  | zero => exact hout
  | succ f ih =>
    intro s h
    unfold Cx.loop
    simp only []
    split
    · exact hv _ s h
    · rename_i s' hs'
      exact ih s' (hend _ s' (hv _ s h) hs')

theorem endRound_eq {s s' : Cx} (h : s.endRound = some s') : ∃ c, s.ctl.next true s.parked.length false = some c ∧
    s' = { s with ctl := c, toVisit := union s.toVisit s.parked, parked := [] } := by
  unfold Cx.endRound at h
  simp only [Option.map_eq_some_iff] at h
  obtain ⟨c, hc, rfl⟩ := h
  exact ⟨c, hc, rfl⟩

theorem complexCheck_ginv {g : Graph} (hwf : g.wellFormed = true) :
    (complexCheck g).g.wellFormed = true ∧ OnlyClones g (complexCheck g).g := by
  refine Cx.loop_induct (P := fun s => s.g.wellFormed = true ∧ OnlyClones g s.g)
    (fun _ h => h) (fun s n h => ?_) (fun _ h => h) (fun s s' h he => ?_)
    (roundFuel g) (Cx.init g) ⟨hwf, onlyClones_refl g⟩
  · -- only the cloning case of a visit touches the graph
    obtain ⟨tv, bl, _, hc⟩ := visit_cases s n
    rcases hc with ⟨_, e⟩ | ⟨_, _, e⟩ | ⟨_, b, hp, _, hc, e⟩ | ⟨_, _, _, e⟩ | ⟨_, _, e⟩ <;> rw [e]
    · exact h
    · exact h
    · exact ⟨insertClone_wf h.1 hp, onlyClones_insertClone h.2 (preds_lt h.1 hp).1 hc⟩
    · exact h
    · exact h
  · obtain ⟨c, _, rfl⟩ := endRound_eq he
    exact h

/-- where the entries of a relationship table come from: `C p` for every value with a consumer, `B p` for every borrowed one -/
def Own.Src (C B : Nat → Prop) (o : Own) : Prop :=
  (∀ p, lookup o.consumers p ≠ [] → C p) ∧ (∀ p, lookup o.borrowers p ≠ [] → B p)

theorem Own.src_addConsume {C B : Nat → Prop} {o : Own} (h : o.Src C B) (n d : Nat) (hd : C d) : (o.addConsume n d).Src C B := by
  refine ⟨fun p hp => ?_, h.2⟩
  simp only [Own.addConsume, lookup_setKey] at hp
  split at hp
  · rename_i hpd
    exact hpd ▸ hd
  · exact h.1 p hp

theorem Own.src_addBorrow {C B : Nat → Prop} {o : Own} (h : o.Src C B) (n b : Nat) (hb : B b) : (o.addBorrow n b).Src C B := by
  refine ⟨h.1, fun p hp => ?_⟩
  simp only [Own.addBorrow, lookup_setKey] at hp
  split at hp
  · rename_i hpb
    exact hpb ▸ hb
  · exact h.2 p hp

/-- every entry of the tables `OwnershipRelationships::compute` builds comes from an edge of the call graph: a consumer from a
    `move` edge, a borrower from a `&`/`&mut` edge or from a data edge out of a value that holds a reference -/
theorem Own.compute_src (g : Graph) (cap : List (Nat × List Nat)) :
    (Own.compute g cap).Src (fun p => ∃ e ∈ g.edges, e.kind = .move ∧ e.src = p)
      (fun p => (∃ e ∈ g.edges, (e.kind = .shared ∨ e.kind = .excl) ∧ e.src = p) ∨
        (∃ e ∈ g.edges, e.kind ≠ .before ∧ p ∈ lookup cap e.src)) := by
  unfold Own.compute
  -- the empty tables, then the fold over the edges themselves, then the fold over what their sources hold
  refine List.foldlRecOn _ _
    (List.foldlRecOn _ _ ⟨fun p hp => absurd rfl hp, fun p hp => absurd rfl hp⟩ ?_) ?_
  · intro o h e he
    cases hk : e.kind with
    | move => exact Own.src_addConsume h _ _ ⟨e, he, hk, rfl⟩
    | shared => exact Own.src_addBorrow h _ _ (Or.inl ⟨e, he, Or.inl hk, rfl⟩)
    | excl => exact Own.src_addBorrow h _ _ (Or.inl ⟨e, he, Or.inr hk, rfl⟩)
    | before => exact h
  · intro o h e he
    split
    · exact h
    · rename_i hk
      refine List.foldlRecOn _ _ h fun o h c hc => ?_
      split
      · exact Own.src_addBorrow h _ _ (Or.inr ⟨e, he, by simpa using hk, hc⟩)
      · exact h

/-- whatever `captured_nodes` says a value holds a reference to is the source of an edge of the call graph -/
theorem captured_src (g : Graph) : ∀ k x, x ∈ lookup (captured g) k → ∃ e ∈ g.edges, e.src = x := by
  unfold captured
  refine List.foldlRecOn
    (motive := fun cap => ∀ k x, x ∈ lookup cap k → ∃ e ∈ g.edges, e.src = x) _ _
    (fun k x hx => by simp [lookup] at hx) fun cap h n _ k x hx => ?_
  unfold capturedNode at hx
  simp only [] at hx
  generalize hcur : List.foldl _ [] _ = cur at hx
  split at hx
  · exact h k x hx
  · rw [lookup_setKey] at hx
    split at hx
    · -- the new entry collects dependencies of `n` and what `cap` lists for them
      revert x
      rw [← hcur]
      refine List.foldlRecOn (motive := fun cur => ∀ x ∈ cur, ∃ e ∈ g.edges, e.src = x) _ _
        (fun _ hx => nomatch hx) fun cur hcur d hd x hx => ?_
      have hq1 : ∀ z ∈ (if (g.node n).tied.contains d then union cur (lookup cap d) else cur),
          ∃ e ∈ g.edges, e.src = z := by
        intro z hz
        split at hz
        · exact (mem_union.1 hz).elim (hcur z) (h d z)
        · exact hcur z hz
      split at hx
      · rcases mem_union.1 hx with hx | hx
        · exact hq1 x hx
        · rw [List.mem_singleton.1 hx]
          simp only [List.mem_map, List.mem_filter] at hd
          obtain ⟨e, ⟨he, _⟩, rfl⟩ := hd
          exact ⟨e, (mem_inEdges.1 he).1, rfl⟩
      · exact hq1 x hx
    · exact h k x hx

/-- `p` is not wanted by value while it is borrowed, unless it is Copy (the state of `OwnershipRelationships`) -/
def NoBlockAt (o : Own) (g : Graph) (p : Nat) : Prop :=
  (g.node p).copy = true ∨ lookup o.consumers p = [] ∨ lookup o.borrowers p = []

theorem blocked_false_of_noBlockAt {s : Cx} {p : Nat} (h : NoBlockAt s.own s.g p) (n : Nat) : s.blocked n p = false := by
  unfold Cx.blocked Own.isConsumedBy Own.isBorrowed
  rcases h with h | h | h <;> simp [h]

theorem borrowers_removeAllBorrows_nil {o : Own} {p : Nat} (h : lookup o.borrowers p = []) (n : Nat) :
    lookup (o.removeAllBorrows n).borrowers p = [] := by
  refine List.foldlRecOn (motive := fun m => lookup m p = []) _ _ h fun m h b _ => ?_
  rw [lookup_setKey]
  split
  · rename_i hpb
    subst hpb
    simp [h]
  · exact h

theorem noBlockAt_removeAllBorrows {o : Own} {g : Graph} {p : Nat} (h : NoBlockAt o g p) (n : Nat) :
    NoBlockAt (o.removeAllBorrows n) g p :=
  h.imp_right (Or.imp_right fun h => borrowers_removeAllBorrows_nil h n)

/-- the tables `compute` builds from a graph in which `p`, wherever it is taken by value, is Copy or borrowed by nobody
    (no `&`/`&mut` edge out of it, no value in use that holds a reference to it) -/
theorem noBlockAt_compute {g : Graph} {p : Nat}
    (h : ∀ e ∈ g.edges, e.kind = .move → e.src = p → (g.node p).copy = true ∨
      g.edges.all (fun e' => !(e'.src == p && (e'.kind == .shared || e'.kind == .excl)) &&
        (e'.kind == .before || !(lookup (captured g) e'.src).contains p)) = true) :
    NoBlockAt (Own.compute g (captured g)) g p := by
  have hsrc := Own.compute_src g (captured g)
  by_cases hc : lookup (Own.compute g (captured g)).consumers p = []
  · exact Or.inr (Or.inl hc)
  · obtain ⟨e, he, hk, hs⟩ := hsrc.1 p hc
    refine (h e he hk hs).imp_right fun h1 => Or.inr (Classical.byContradiction fun hb => ?_)
    rw [List.all_eq_true] at h1
    rcases hsrc.2 p hb with ⟨e', he', hk', hs'⟩ | ⟨e', he', hk', hm'⟩
    · have := h1 e' he'
      rcases hk' with hk' | hk' <;> simp [hs', hk'] at this
    · have := h1 e' he'
      have hkb : (e'.kind == .before) = false := by simpa using hk'
      simp only [hkb, Bool.false_or, Bool.and_eq_true, Bool.not_eq_true', List.contains_eq_mem,
        decide_eq_false_iff_not] at this
      exact this.2 hm'

/-- the graph-level reading of "nothing is contended": whatever is taken by value is Copy, or nobody borrows it and no value
    that is used anywhere holds a reference to it (↔ C02's "moved into one consumer and never borrowed"). -/
def uncontended (g : Graph) : Bool :=
  g.edges.all (fun e => e.kind != .move || (g.node e.src).copy ||
    g.edges.all (fun e' => !(e'.src == e.src && (e'.kind == .shared || e'.kind == .excl)) &&
      (e'.kind == .before || !(lookup (captured g) e'.src).contains e.src)))

theorem noBlock_of_uncontended {g : Graph} (h : uncontended g = true) (p : Nat) :
    NoBlockAt (Own.compute g (captured g)) g p := by
  refine noBlockAt_compute fun e he hk hs => ?_
  have := List.all_eq_true.1 h e he
  simpa [hk, hs] using this

/-- **the pass is the identity, and silent, when nothing is contended**: if no non-Copy value of the call graph is both
    taken by value and borrowed (directly, or through a value that holds a reference to it), `complexCheck` returns the
    graph as it was and reports nothing: every node visited is finished at once. -/
theorem complexCheck_silent {g : Graph} (h : ∀ p, NoBlockAt (Own.compute g (captured g)) g p) :
    (complexCheck g).g = g ∧ (complexCheck g).diags = [] := by
  have := Cx.loop_induct (P := fun s => s.g = g ∧ s.diags = [] ∧ ∀ p, NoBlockAt s.own s.g p)
    (fun _ h => h) (fun s n h => ?_) (fun _ h => h) (fun s s' h he => ?_)
    (roundFuel g) (Cx.init g) ⟨rfl, rfl, h⟩
  · exact ⟨this.1, this.2.1⟩
  · obtain ⟨hg, hdiags, hnb⟩ := h
    obtain ⟨tv, bl, hbl, hc⟩ := visit_cases s n
    -- nothing blocks the node, so of the five cases only "finished" is possible
    have hnil : bl = [] := by
      rw [hbl, List.filter_eq_nil_iff]
      intro p _
      simp [blocked_false_of_noBlockAt (hnb p) n]
    rcases hc with ⟨_, e⟩ | ⟨hne, _⟩ | ⟨_, b, _, hb, _⟩ | ⟨hne, _⟩ | ⟨hne, _⟩
    · rw [e]
      exact ⟨hg, hdiags, fun p => noBlockAt_removeAllBorrows (hnb p) n⟩
    · exact absurd hnil hne
    · rw [blocked_false_of_noBlockAt (hnb b) n] at hb
      cases hb
    · exact absurd hnil hne
    · exact absurd hnil hne
  · obtain ⟨c, _, rfl⟩ := endRound_eq he
    exact h

/-- the invariant of `complexCheck` on graphs whose contended values may all be cloned -/
structure CK (s : Cx) : Prop where
  noError : s.ctl.strat ≠ .error
  diags : s.diags = []
  /-- a cloning round that parks a node has cloned for it -/
  flag : s.ctl.strat = .clone → s.parked ≠ [] → s.ctl.flag = true
  cc : ∀ p, (s.g.node p).cloneable = true ∨ NoBlockAt s.own s.g p
  wf : s.g.wellFormed = true
  /-- the tables have no entry for a node that does not exist yet -/
  fresh : ∀ k, s.g.size ≤ k → lookup s.own.consumers k = [] ∧ lookup s.own.borrowers k = []

/-- `CK` reads neither the work list nor the fuel flag. -/
theorem CK.toVisit {s : Cx} (h : CK s) (tv : List Nat) : CK { s with toVisit := tv } :=
  { noError := h.noError, diags := h.diags, flag := h.flag, cc := h.cc, wf := h.wf,
    fresh := h.fresh }

theorem CK.fuelOut {s : Cx} (h : CK s) : CK { s with fuelOut := true } :=
  { noError := h.noError, diags := h.diags, flag := h.flag, cc := h.cc, wf := h.wf,
    fresh := h.fresh }

theorem blocked_cloneable {s : Cx} (h : CK s) {n p : Nat} (hb : s.blocked n p = true) :
    (s.g.node p).cloneable = true :=
  (h.cc p).resolve_right fun hn => by rw [blocked_false_of_noBlockAt hn] at hb; cases hb

theorem CK_cloneFor {s : Cx} (h : CK s) {n b : Nat} (hp : b ∈ s.g.preds n) (hc : (s.g.node b).cloneable = true)
    (hstrat : s.ctl.strat = .clone) (parked' : List Nat) :
    CK { (s.cloneFor n b) with parked := parked' } := by
  have hbs : b < s.g.size := (preds_lt h.wf hp).1
  -- what the three table updates leave alone (the clone is the node `s.g.size`)
  have hbor : ∀ p, p ≠ b → lookup (s.cloneFor n b).own.borrowers p = lookup s.own.borrowers p :=
    fun p hpb => by
      simp only [Cx.cloneFor, Own.addBorrow, Own.removeConsumer, Own.addConsume, lookup_setKey, hpb,
        if_false]
  have hcons : ∀ p, p ≠ b → p ≠ s.g.size →
      lookup (s.cloneFor n b).own.consumers p = lookup s.own.consumers p :=
    fun p hpb hpc => by
      simp only [Cx.cloneFor, Own.addBorrow, Own.removeConsumer, Own.addConsume, lookup_setKey, hpb,
        if_false]
      rw [if_neg]
      exact hpc
  have hne : ({ s.cloneFor n b with parked := parked' } : Cx).ctl.strat ≠ .error := fun hh => by
    rw [show s.ctl.strat = Strat.error from hh] at hstrat
    cases hstrat
  refine { noError := hne, diags := h.diags, flag := fun _ _ => rfl, cc := fun p => ?cc,
           wf := insertClone_wf h.wf hp, fresh := fun k hk => ?fresh }
  case cc =>
    show ((insertClone s.g b n).1.node p).cloneable = true ∨
      NoBlockAt (s.cloneFor n b).own (insertClone s.g b n).1 p
    by_cases hpb : p = b
    · exact Or.inl (by rw [hpb, cloneable_insertClone_old _ _ _ _ hbs]; exact hc)
    · unfold NoBlockAt
      rw [hbor p hpb]
      by_cases hlt : p < s.g.size
      · rw [hcons p hpb (Nat.ne_of_lt hlt), copy_insertClone_old _ _ _ _ hlt,
          cloneable_insertClone_old _ _ _ _ hlt]
        exact h.cc p
      · exact Or.inr (Or.inr (Or.inr (h.fresh p (Nat.le_of_not_lt hlt)).2))
  case fresh =>
    have hk' : s.g.size + 1 ≤ k := size_insertClone s.g b n ▸ hk
    show lookup (s.cloneFor n b).own.consumers k = [] ∧ lookup (s.cloneFor n b).own.borrowers k = []
    rw [hbor k (by omega), hcons k (by omega) (by omega)]
    exact h.fresh k (by omega)

theorem CK_visit {s : Cx} (h : CK s) (n : Nat) : CK (s.visit n).1 := by
  obtain ⟨tv, bl, hbl, hc⟩ := visit_cases s n
  rcases hc with ⟨_, e⟩ | ⟨_, hs, e⟩ | ⟨hs, b, hp, _, hc, e⟩ | ⟨hne, _, hno, _⟩ | ⟨_, hs, _⟩
  · -- finished: the borrows of `n` are released, which unblocks and adds no table entry
    rw [e]
    exact {
      noError := h.noError, diags := h.diags, flag := h.flag, wf := h.wf
      cc := fun p => (h.cc p).imp_right fun hn => noBlockAt_removeAllBorrows hn n
      fresh := fun k hk => ⟨(h.fresh k hk).1, borrowers_removeAllBorrows_nil (h.fresh k hk).2 n⟩ }
  · -- parked, in a parking round: `flag` says nothing about those
    rw [e]
    have hflag : s.ctl.strat = .clone → union s.parked [n] ≠ [] → s.ctl.flag = true := fun hc => by
      rw [show s.ctl.strat = Strat.park from hs] at hc
      cases hc
    exact { noError := h.noError, diags := h.diags, flag := hflag, cc := h.cc, wf := h.wf,
            fresh := h.fresh }
  · rw [e]
    exact CK_cloneFor (s := { s with toVisit := tv }) (h.toVisit tv) hp hc hs _
  · -- something blocks the node, and whatever blocks may be cloned
    obtain ⟨b0, hb0⟩ := List.exists_mem_of_ne_nil _ hne
    have := blocked_cloneable h (List.mem_filter.1 (hbl ▸ hb0)).2
    rw [hno b0 hb0] at this
    cases this
  · -- reported: the error strategy is never entered
    exact absurd hs h.noError

/-- the tail of a round does not switch to the error strategy as long as every cloning round that left a node parked has
    cloned something. -/
theorem Ctl.next_strat {c c' : Ctl} {n : Nat} (h : c.next true n false = some c') (hne : c.strat ≠ .error)
    (hf : c.strat = .clone → n ≠ 0 → c.flag = true) : c'.strat ≠ .error := by
  obtain ⟨s, f, p⟩ := c
  cases hn : n == 0 with
  | true => simp [Ctl.next, hn] at h
  | false =>
    cases hp : p == some n with
    | false =>
      -- another number of parked nodes than last time: the strategy stays
      simp only [Ctl.next, hn, hp, Bool.false_eq_true, if_false, Option.some.injEq] at h
      subst h
      exact hne
    | true =>
      obtain rfl : p = some n := by simpa using hp
      rw [Ctl.next_same _ _ _ hn] at h
      cases s with
      | park =>
        cases h
        simp
      | clone =>
        obtain rfl : f = true := hf rfl (by simpa using hn)
        cases h
        simp
      | error => exact absurd rfl hne

theorem CK_endRound {s s' : Cx} (h : CK s) (he : s.endRound = some s') : CK s' := by
  obtain ⟨c, hc, rfl⟩ := endRound_eq he
  have hflag : s.ctl.strat = .clone → s.parked.length ≠ 0 → s.ctl.flag = true :=
    fun hs hn => h.flag hs fun hp => hn (by rw [hp]; rfl)
  exact { noError := Ctl.next_strat hc h.noError hflag, diags := h.diags,
          flag := fun _ hp => absurd rfl hp, cc := h.cc, wf := h.wf, fresh := h.fresh }

/-- every value that is taken by value while somebody borrows it is Copy or may be cloned -/
def contendedCloneable (g : Graph) : Bool :=
  g.edges.all (fun e => e.kind != .move || (g.node e.src).copy || (g.node e.src).cloneable ||
    g.edges.all (fun e' => !(e'.src == e.src && (e'.kind == .shared || e'.kind == .excl)) &&
      (e'.kind == .before || !(lookup (captured g) e'.src).contains e.src)))

theorem CK_init {g : Graph} (hwf : g.wellFormed = true) (h : contendedCloneable g = true) : CK (Cx.init g) := by
  have hsrc := Own.compute_src g (captured g)
  refine { noError := by simp [Cx.init], diags := rfl, flag := fun hc => by simp [Cx.init] at hc,
           cc := fun p => ?cc, wf := hwf, fresh := fun k hk => ⟨?consumers, ?borrowers⟩ }
  case cc =>
    show (g.node p).cloneable = true ∨ NoBlockAt (Own.compute g (captured g)) g p
    cases hcl : (g.node p).cloneable with
    | true => exact Or.inl rfl
    | false =>
      refine Or.inr (noBlockAt_compute fun e he hk hs => ?_)
      have := List.all_eq_true.1 h e he
      simpa [hk, hs, hcl] using this
  -- a table entry comes from an edge, and edges join nodes of the graph
  case consumers =>
    refine Classical.byContradiction fun hne => ?_
    obtain ⟨e, he, _, hs⟩ := hsrc.1 k hne
    have := (lt_size_of_mem_edges hwf he).1
    have hk' : g.size ≤ k := hk
    omega
  case borrowers =>
    refine Classical.byContradiction fun hne => ?_
    have hk' : g.size ≤ k := hk
    rcases hsrc.2 k hne with ⟨e, he, _, hs⟩ | ⟨e, he, _, hm⟩
    · have := (lt_size_of_mem_edges hwf he).1
      omega
    · obtain ⟨e', he', hs'⟩ := captured_src g _ _ hm
      have := (lt_size_of_mem_edges hwf he').1
      omega

theorem complexCheck_CK {g : Graph} (hwf : g.wellFormed = true) (h : contendedCloneable g = true) :
    CK (complexCheck g) :=
  Cx.loop_induct (P := CK) (fun _ h => h.toVisit _) (fun _ n h => CK_visit h n)
    (fun _ h => h.fuelOut) (fun _ _ h he => CK_endRound h he) (roundFuel g) (Cx.init g) (CK_init hwf h)

end Pxv.CG
