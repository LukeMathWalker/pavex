import Pxv.Model.Domain
import Pxv.Lemmas.Basic
/-!
C20, the syntax half: the label scanner of `validate` accepts exactly the grammar `LabelG` /
`LabelsG`. The state of the scanner only gets worse (`Bad` is kept by `scan`), so an accepted label
was scanned through clean states, and from those the shape of the label can be read off.
-/
namespace Pxv.Domain

theorem labelChar_ne {c : Char} (h : labelChar c = true) :
    c ≠ '{' ∧ c ≠ '}' ∧ c ≠ '.' ∧ c ≠ '*' ∧ c ≠ '/' := by
  refine ⟨?_, ?_, ?_, ?_, ?_⟩ <;> (intro e; subst e; revert h; decide)

theorem identCont_ne {c : Char} (h : identCont c = true) :
    c ≠ '{' ∧ c ≠ '}' ∧ c ≠ '.' ∧ c ≠ '*' ∧ c ≠ '/' := by
  refine ⟨?_, ?_, ?_, ?_, ?_⟩ <;> (intro e; subst e; revert h; decide)

theorem identStart_cont {c : Char} (h : identStart c = true) : identCont c = true := by
  simp only [identStart, identCont, Char.isAlphanum, Bool.or_eq_true] at *
  exact h.imp_left Or.inl

theorem isIdent_spec {n : List Char} (h : isIdent n = true) :
    n ≠ [] ∧ ∀ c ∈ n, identCont c = true := by
  cases n with
  | nil => simp [isIdent] at h
  | cons c cs =>
    simp only [isIdent, Bool.and_eq_true, List.all_eq_true] at h
    exact ⟨by simp, List.forall_mem_cons.mpr ⟨identStart_cont h.1.1, h.1.2⟩⟩

/-- `c` is none of the five characters that mean something in a guard or in a `matchit` pattern. -/
structure Plain (c : Char) : Prop where
  obrace : c ≠ '{'
  cbrace : c ≠ '}'
  dot : c ≠ '.'
  star : c ≠ '*'
  slash : c ≠ '/'

theorem Plain.of_ne {c : Char} (h : c ≠ '{' ∧ c ≠ '}' ∧ c ≠ '.' ∧ c ≠ '*' ∧ c ≠ '/') : Plain c :=
  ⟨h.1, h.2.1, h.2.2.1, h.2.2.2.1, h.2.2.2.2⟩

theorem labelChar_plain {c : Char} (h : labelChar c = true) : Plain c :=
  .of_ne (labelChar_ne h)

theorem ident_plain {n : List Char} (h : isIdent n = true) {c : Char} (hc : c ∈ n) : Plain c :=
  .of_ne (identCont_ne ((isIdent_spec h).2 c hc))

theorem ident_head_ne_star {name : List Char} (hid : isIdent name = true) (r : List Char) :
    (name ++ r).head? ≠ some '*' := by
  cases name with
  | nil => exact absurd rfl (isIdent_spec hid).1
  | cons c cs => simpa using (ident_plain hid (by simp)).star

theorem ite_error_eq_ok {ε α} {c : Prop} [Decidable c] {e : ε} {x : Except ε α} {a : α} :
    (if c then .error e else x) = .ok a ↔ ¬ c ∧ x = .ok a := by
  split <;> simp [*]

/-- What `finish` checks, in the order of the source. -/
structure FinishOk (idx : Nat) (l : List Char) (st : St) (n : Nat) : Prop where
  closed : st.cur = none
  valid : st.invalid = false
  atMostOne : st.parsed.length ≤ 1
  param : ∀ p, st.parsed.head? = some p → p.1 = 0 ∧ (p.2 = true → idx = 0)
  ne : l ≠ []
  head : ∀ c, l.head? = some c → c ≠ '{' → c.isAlphanum = true
  last : ∀ c, l.getLast? = some c → c ≠ '}' → c.isAlphanum = true
  le63 : st.len ≤ 63
  len : st.len = n

theorem finish_ok_iff {idx : Nat} {l : List Char} {st : St} {n : Nat} :
    finish idx l st = .ok n ↔ FinishOk idx l st n := by
  unfold finish
  simp only [ite_error_eq_ok]
  constructor
  · rintro ⟨hcur, hinv, hone, h⟩
    -- `hcheck`: the check of the parameter's position has passed
    split at h
    · cases h
    rename_i hcheck
    split at h
    · rename_i first last hf hl
      simp only [ite_error_eq_ok] at h
      obtain ⟨hfirst, hlast, h63, hn⟩ := h
      exact {
        closed := by simpa using hcur
        valid := by simpa using hinv
        atMostOne := Nat.not_lt.mp hone
        param := fun p hp => by
          simp only [hp, ite_error_eq_ok] at hcheck
          simpa using hcheck
        ne := by rintro rfl; cases hf
        head := fun c hc hne => by
          cases hf.symm.trans hc
          simpa [hne] using hfirst
        last := fun c hc hne => by
          cases hl.symm.trans hc
          simpa [hne] using hlast
        le63 := Nat.not_lt.mp h63
        len := by simpa using hn }
    · cases h
  · intro ok
    refine ⟨by simp [ok.closed], by simp [ok.valid], Nat.not_lt.mpr ok.atMostOne, ?_⟩
    split
    · -- `hcheck`: the check of the parameter's position has failed
      rename_i hcheck
      split at hcheck
      · rename_i hp
        obtain ⟨hstart, hca⟩ := ok.param _ hp
        rw [if_neg (fun h => h hstart)] at hcheck
        split at hcheck
        · rename_i hh
          simp only [Bool.and_eq_true, decide_eq_true_eq] at hh
          exact absurd (hca hh.1) hh.2
        · cases hcheck
      · cases hcheck
    · split
      · rename_i first last hf hl
        simp only [ite_error_eq_ok]
        exact ⟨by simpa using ok.head first hf, by simpa using ok.last last hl,
          Nat.not_lt.mpr ok.le63, by rw [ok.len]⟩
      · rename_i hx
        cases l with
        | nil => exact absurd rfl ok.ne
        | cons c t => exact (hx c _ rfl List.getLast?_cons).elim

/-- Start indices of the parameters met so far, the open one last. -/
def starts (st : St) : List Nat := st.parsed.map (·.1) ++ (st.cur.map (·.2.1)).toList

theorem scan_mono {i : Nat} {cs : List Char} {st st' : St} (h : scan i cs st = .ok st') :
    (st.invalid = true → st'.invalid = true) ∧ starts st <+: starts st' := by
  induction cs generalizing i st with
  | nil => cases h; exact ⟨id, List.prefix_rfl⟩
  | cons c cs ih =>
    have step : ∀ {st1 : St}, scan (i + 1) cs st1 = .ok st' →
        (st.invalid = true → st1.invalid = true) → starts st <+: starts st1 →
        (st.invalid = true → st'.invalid = true) ∧ starts st <+: starts st' :=
      fun h h1 h2 => ⟨fun hi => (ih h).1 (h1 hi), h2.trans (ih h).2⟩
    simp only [scan] at h
    split at h
    · split at h
      · -- `}` closes the open parameter, unless its name is empty or no identifier
        split at h
        · cases h
        · split at h
          · cases h
          · exact step h id (by simp [starts, *])
      · -- `}` outside a parameter: the label is invalid from here on
        exact step h (fun _ => rfl) (by simp [starts])
    · split at h
      · -- inside a parameter: `*` right after `{`, or one more character of the name
        split at h <;> exact step h id (by simp [starts, *])
      · split at h
        · -- `{` opens a parameter
          exact step h id (by simp [starts, *])
        · exact step h (by simp +contextual) (by simp [starts])

/-- States from which the label can no longer be accepted: only a parameter at index 0 is. -/
def Bad (st : St) : Prop :=
  st.invalid = true ∨ 2 ≤ (starts st).length ∨ ∃ s ∈ starts st, s ≠ 0

theorem scan_bad {i : Nat} {cs : List Char} {st st' : St} (hb : Bad st)
    (h : scan i cs st = .ok st') : Bad st' :=
  have ⟨h1, h2⟩ := scan_mono h
  hb.imp h1 (Or.imp (Nat.le_trans · h2.length_le) fun ⟨s, hs, h0⟩ => ⟨s, h2.subset hs, h0⟩)

theorem finish_bad {idx : Nat} {l : List Char} {st : St} (hb : Bad st) (n : Nat) :
    finish idx l st ≠ .ok n := by
  intro h
  have ok := finish_ok_iff.mp h
  simp only [Bad, starts, ok.closed, ok.valid] at hb
  match hps : st.parsed, ok.atMostOne, ok.param with
  | [], _, _ => simp [hps] at hb
  | [p], _, hp => simp [hps, (hp p rfl).1] at hb
  | _ :: _ :: _, hone, _ => exact absurd hone (by simp)

theorem scan_labelChars {i : Nat} {cs : List Char} {st : St} (hcur : st.cur = none)
    (hinv : st.invalid = false) (hall : ∀ c ∈ cs, labelChar c = true) :
    scan i cs st = .ok { st with len := st.len + cs.length } := by
  induction cs generalizing i st with
  | nil => simp [scan]
  | cons c cs ih =>
    have hc := hall c (by simp)
    have hne := labelChar_plain hc
    simp only [scan, hne.cbrace, hne.obrace, if_false, hcur]
    rw [ih (by simp) (by simp [hinv, hc]) (fun x hx => hall x (by simp [hx]))]
    simp [hinv, hc]
    omega

/-- `hpos`: a parameter opened from here on would be a second one or not at index 0, hence `Bad`. -/
theorem scan_clean {i : Nat} {cs : List Char} {st st' : St} (hcur : st.cur = none)
    (hpos : 1 ≤ st.parsed.length ∨ 0 < i ∨ cs.head? ≠ some '{') (h : scan i cs st = .ok st')
    (hgood : ¬ Bad st') :
    (∀ c ∈ cs, labelChar c = true) ∧ st' = { st with len := st.len + cs.length } := by
  obtain ⟨len, parsed, cur, invalid⟩ := st
  simp only at hcur
  subst hcur
  induction cs generalizing i len invalid with
  | nil => cases h; simp
  | cons c cs ih =>
    simp only [scan] at h
    split at h
    · -- `}` outside a parameter
      exact absurd (scan_bad (Or.inl rfl) h) hgood
    · split at h
      · rename_i hc
        refine absurd (scan_bad (Or.inr ?_) h) hgood
        rcases hpos with hp | hp | hp
        · exact Or.inl (by simp [starts]; omega)
        · exact Or.inr ⟨i, by simp [starts], by omega⟩
        · simp [hc] at hp
      · -- any other character: it has to be a label character, or the state is invalid for good
        obtain ⟨h1, h2⟩ := ih _ _ (Or.inr (Or.inl (Nat.succ_pos i))) h
        have hc : labelChar c = true := by
          cases hlc : labelChar c with
          | true => rfl
          | false => exact absurd (Or.inl (by simp [h2, hlc])) hgood
        exact ⟨by simpa [hc] using h1, by simp [h2, hc]; omega⟩

/-- `hns`: the first character of `a` is not taken for the `*` of a catch-all. -/
theorem scan_accum {i : Nat} {a rest n : List Char} {s : Nat} {ca : Bool} {st : St}
    (ha : ∀ c ∈ a, c ≠ '}') (hns : n ≠ [] ∨ ca = true ∨ a.head? ≠ some '*') :
    scan i (a ++ rest) { st with cur := some (n, s, ca) } =
      scan (i + a.length) rest { st with cur := some (n ++ a, s, ca) } := by
  induction a generalizing i n with
  | nil => simp
  | cons c a ih =>
    have hc : c ≠ '}' := ha c (by simp)
    have hsw : ¬ (c = '*' ∧ n = [] ∧ ca = false) := by
      rintro ⟨h1, h2, h3⟩
      rcases hns with h | h | h
      · exact h h2
      · simp [h3] at h
      · simp [h1] at h
    simp only [List.cons_append, scan, hc, if_false, hsw]
    rw [ih (fun x hx => ha x (by simp [hx])) (Or.inl (by simp))]
    simp [Nat.add_assoc, Nat.add_comm 1]

/-- `hns`: a `*` can no longer turn the open parameter into a catch-all. -/
theorem scan_param_inv {i : Nat} {u n : List Char} {s : Nat} {ca : Bool} {st st' : St}
    (hns : n ≠ [] ∨ ca = true)
    (h : scan i u { st with cur := some (n, s, ca) } = .ok st') (hout : st'.cur = none) :
    ∃ a b, u = a ++ '}' :: b ∧ isIdent (n ++ a) = true ∧
      scan (i + a.length + 1) b
        { st with len := st.len + 1, parsed := st.parsed ++ [(s, ca)], cur := none } = .ok st' := by
  induction u generalizing i n with
  | nil => cases h; cases hout
  | cons c u ih =>
    by_cases hc : c = '}'
    · simp only [scan, hc, if_true, ite_error_eq_ok, Bool.not_eq_true'] at h
      exact ⟨[], u, by simp [hc], by simpa using h.2.1, by simpa using h.2.2⟩
    · rw [← List.singleton_append, scan_accum (by simpa using hc) (hns.imp_right Or.inl)] at h
      obtain ⟨a, b, hu, hid, hscan⟩ := ih (Or.inl (by simp)) h
      exact ⟨c :: a, b, by simp [hu], by simpa using hid,
        by simpa [Nat.add_assoc, Nat.add_comm 1] using hscan⟩

theorem getLast?_append_cons {α} (xs : List α) (b : α) (ys : List α) :
    (xs ++ b :: ys).getLast? = (b :: ys).getLast? := by
  rw [List.getLast?_append, List.getLast?_cons, Option.some_or]

/-- A label that starts with a parameter; `pre` is `{` or `{*`, and `i0` its length. -/
theorem scanLabel_param {idx i0 : Nat} {pre name rest : List Char} {ca : Bool}
    (hpre : ∀ t, scan 0 (pre ++ t) {} = scan i0 t { cur := some ([], 0, ca) })
    (hhead : pre.head? = some '{') (hid : isIdent name = true) (hrest : RestOk rest)
    (hlen : 1 + rest.length ≤ 63) (hca : ca = true → idx = 0) :
    scanLabel idx (pre ++ name ++ '}' :: rest) = .ok (1 + rest.length) := by
  have hstar : name.head? ≠ some '*' := by simpa using ident_head_ne_star hid []
  have e : scan (i0 + name.length) ('}' :: rest) { cur := some ([] ++ name, 0, ca) } =
      scan (i0 + name.length + 1) rest { len := 1, parsed := [(0, ca)], cur := none } := by
    simp [scan, (isIdent_spec hid).1, hid]
  unfold scanLabel
  rw [List.append_assoc, hpre, scan_accum (st := {}) (fun c hc => (ident_plain hid hc).cbrace)
    (Or.inr (Or.inr hstar)), e, scan_labelChars rfl rfl hrest.1]
  refine finish_ok_iff.mpr {
    closed := rfl
    valid := rfl
    atMostOne := by simp
    param := by simpa using hca
    ne := by simp
    head := fun c hc hne => ?_
    last := fun c hc hne => ?_
    le63 := by simpa using hlen
    len := by simp }
  · simp only [List.head?_append, hhead, Option.some_or, Option.some.injEq] at hc
    exact absurd hc.symm hne
  · rw [← List.append_assoc, getLast?_append_cons, List.getLast?_cons] at hc
    cases hr : rest.getLast? with
    | none =>
      simp [hr] at hc
      exact absurd hc.symm hne
    | some c' =>
      simp [hr] at hc
      exact hc ▸ hrest.2 c' hr

theorem scanLabel_of_LabelG {idx : Nat} {l : List Char} {n : Nat} (h : LabelG (idx == 0) l n) :
    scanLabel idx l = .ok n := by
  generalize hf : (idx == 0) = first at h
  cases h with
  | lit hne hall hhead hlast hlen =>
    unfold scanLabel
    rw [scan_labelChars (st := {}) rfl rfl hall]
    exact finish_ok_iff.mpr {
      closed := rfl
      valid := rfl
      atMostOne := by simp
      param := by simp
      ne := hne
      head := fun c hc _ => hhead c hc
      last := fun c hc _ => hlast c hc
      le63 := by simpa using hlen
      len := by simp }
  | @param _ name rest hid hrest hlen =>
    exact scanLabel_param (pre := ['{']) (i0 := 1) (ca := false) (fun t => by simp [scan]) rfl hid
      hrest hlen (by simp)
  | @catchAll name rest hid hrest hlen =>
    exact scanLabel_param (pre := ['{', '*']) (i0 := 2) (ca := true) (fun t => by simp [scan]) rfl
      hid hrest hlen (fun _ => by simpa using hf)

/-- The converse of `scanLabel_param`, from inside the parameter (`pre` has been read). -/
theorem labelG_of_param {idx i0 : Nat} {pre t n0 : List Char} {ca : Bool} {st : St} {n : Nat}
    (hns : n0 ≠ [] ∨ ca = true) (hscan : scan i0 t { cur := some (n0, 0, ca) } = .ok st)
    (hfin : finish idx (pre ++ t) st = .ok n) :
    ∃ a b, t = a ++ '}' :: b ∧ isIdent (n0 ++ a) = true ∧ RestOk b ∧ 1 + b.length ≤ 63 ∧
      n = 1 + b.length ∧ (ca = true → idx = 0) := by
  have ok := finish_ok_iff.mp hfin
  obtain ⟨a, b, rfl, hid, hscan'⟩ := scan_param_inv (st := {}) hns hscan ok.closed
  obtain ⟨hall, rfl⟩ := scan_clean rfl (Or.inl (by simp)) hscan' (fun hb => finish_bad hb n hfin)
  refine ⟨a, b, rfl, hid, ⟨hall, fun c hc => ?_⟩, by simpa [Nat.add_comm] using ok.le63,
    by simpa [Nat.add_comm] using ok.len.symm, (ok.param (0, ca) (by simp)).2⟩
  refine ok.last c ?_ (labelChar_plain (hall c (List.mem_of_getLast? hc))).cbrace
  rw [← List.append_assoc, getLast?_append_cons, List.getLast?_cons, hc]
  rfl

theorem LabelG_of_scanLabel {idx : Nat} {l : List Char} {n : Nat} (h : scanLabel idx l = .ok n) :
    LabelG (idx == 0) l n := by
  unfold scanLabel at h
  split at h
  · cases h
  rename_i st hscan
  have ok := finish_ok_iff.mp h
  by_cases hb : l.head? = some '{'
  · obtain ⟨t, rfl⟩ := List.head?_eq_some_iff.mp hb
    rw [show scan 0 ('{' :: t) {} = scan 1 t { cur := some ([], 0, false) } by simp [scan]] at hscan
    cases t with
    | nil => cases hscan; cases ok.closed
    | cons c1 t' =>
      by_cases hs : c1 = '*'
      · subst hs
        rw [show scan 1 ('*' :: t') { cur := some ([], 0, false) } =
          scan 2 t' { cur := some ([], 0, true) } by simp [scan]] at hscan
        obtain ⟨a, b, rfl, hid, hr, h63, rfl, hca⟩ :=
          labelG_of_param (pre := ['{', '*']) (Or.inr rfl) hscan h
        rw [show (idx == 0) = true by simpa using hca rfl]
        exact LabelG.catchAll hid hr h63
      · by_cases hc : c1 = '}'
        · simp [scan, hc] at hscan
        · rw [show scan 1 (c1 :: t') { cur := some ([], 0, false) } =
            scan 2 t' { cur := some ([c1], 0, false) } by simp [scan, hc, hs]] at hscan
          obtain ⟨a, b, rfl, hid, hr, h63, rfl, _⟩ :=
            labelG_of_param (pre := ['{', c1]) (Or.inl (by simp)) hscan h
          exact LabelG.param (name := c1 :: a) hid hr h63
  · obtain ⟨hall, rfl⟩ := scan_clean rfl (Or.inr (Or.inr hb)) hscan (fun hb => finish_bad hb n h)
    obtain rfl := ok.len
    exact Nat.zero_add _ ▸ LabelG.lit ok.ne hall (fun c hc => ok.head c hc fun e => hb (e ▸ hc))
      (fun c hc => ok.last c hc (labelChar_plain (hall _ (List.mem_of_getLast? hc))).cbrace)
      (by simpa using ok.le63)

theorem scanLabel_iff {idx : Nat} {l : List Char} {n : Nat} :
    scanLabel idx l = .ok n ↔ LabelG (idx == 0) l n :=
  ⟨LabelG_of_scanLabel, scanLabel_of_LabelG⟩

theorem splitDots_eq : ∀ l, splitDots l = splitSep '.' l
  | [] => rfl
  | c :: cs => by rw [splitDots, splitSep, splitDots_eq cs]; cases splitSep '.' cs <;> rfl

theorem splitDots_nodot {l : List Char} (h : '.' ∉ l) : splitDots l = [l] :=
  (splitDots_eq l).trans (splitSep_of_not_mem h)

theorem splitDots_append {l s : List Char} (h : '.' ∉ l) :
    splitDots (l ++ '.' :: s) = l :: splitDots s := by
  rw [splitDots_eq, splitDots_eq, splitSep_append s h]

theorem splitDots_ne_nil (s : List Char) : splitDots s ≠ [] := splitDots_eq s ▸ splitSep_ne_nil s

theorem splitDots_mem_nodot {s l : List Char} (h : l ∈ splitDots s) : '.' ∉ l :=
  (splitSep_spec s).2.1 l (splitDots_eq s ▸ h)

theorem joinSep_splitDots (s : List Char) : joinSep '.' (splitDots s) = s :=
  splitDots_eq s ▸ (splitSep_spec s).2.2

theorem splitDots_snoc_dot (b : List Char) : splitDots (b ++ ['.']) = splitDots b ++ [[]] := by
  rw [splitDots_eq, splitDots_eq, splitSep_snoc_sep]

theorem splitDots_joinSep {ls : List (List Char)} (hne : ls ≠ []) (hnd : ∀ l ∈ ls, '.' ∉ l) :
    splitDots (joinSep '.' ls) = ls :=
  (splitDots_eq _).trans (splitSep_joinSep hne hnd)

/-- A label of a guard, put together again. -/
def GLabel.str : GLabel → List Char
  | .lit s => s
  | .param name rest => '{' :: name ++ '}' :: rest
  | .catchAll name rest => '{' :: '*' :: name ++ '}' :: rest

def GLabel.isCatchAll : GLabel → Bool
  | .catchAll _ _ => true
  | _ => false

def GLabel.WF : GLabel → Prop
  | .lit s => s ≠ [] ∧ ∀ c ∈ s, labelChar c = true
  | .param name rest => isIdent name = true ∧ ∀ c ∈ rest, labelChar c = true
  | .catchAll name rest => isIdent name = true ∧ ∀ c ∈ rest, labelChar c = true

theorem GLabel.str_ne {gl : GLabel} (h : gl.WF) {c : Char} (hc : c ∈ gl.str) :
    c ≠ '.' ∧ c ≠ '/' := by
  have lc : ∀ {s : List Char}, (∀ c ∈ s, labelChar c = true) → c ∈ s → c ≠ '.' ∧ c ≠ '/' :=
    fun hs hc => ⟨(labelChar_plain (hs c hc)).dot, (labelChar_plain (hs c hc)).slash⟩
  have id : ∀ {s : List Char}, isIdent s = true → c ∈ s → c ≠ '.' ∧ c ≠ '/' :=
    fun hs hc => ⟨(ident_plain hs hc).dot, (ident_plain hs hc).slash⟩
  cases gl with
  | lit s => exact lc h.2 hc
  | param name rest =>
    simp only [GLabel.str, List.mem_cons, List.mem_append] at hc
    rcases hc with (rfl | hc) | rfl | hc
    · decide
    · exact id h.1 hc
    · decide
    · exact lc h.2 hc
  | catchAll name rest =>
    simp only [GLabel.str, List.mem_cons, List.mem_append] at hc
    rcases hc with (rfl | rfl | hc) | rfl | hc
    · decide
    · decide
    · exact id h.1 hc
    · decide
    · exact lc h.2 hc

theorem labelG_struct {f : Bool} {l : List Char} {n : Nat} (h : LabelG f l n) :
    ∃ gl : GLabel, gl.WF ∧ l = gl.str ∧ (f = false → gl.isCatchAll = false) := by
  cases h with
  | lit hne hall _ _ _ => exact ⟨.lit l, ⟨hne, hall⟩, rfl, fun _ => rfl⟩
  | @param _ name rest hid hr _ => exact ⟨.param name rest, ⟨hid, hr.1⟩, rfl, fun _ => rfl⟩
  | @catchAll name rest hid hr _ => exact ⟨.catchAll name rest, ⟨hid, hr.1⟩, rfl, nofun⟩

theorem labelG_nodot_ne_nil {f : Bool} {l : List Char} {n : Nat} (h : LabelG f l n) :
    '.' ∉ l ∧ l ≠ [] := by
  obtain ⟨gl, hwf, rfl, _⟩ := labelG_struct h
  refine ⟨fun hm => (GLabel.str_ne hwf hm).1 rfl, ?_⟩
  cases gl with
  | lit s => exact hwf.1
  | _ => simp [GLabel.str]

theorem labelsG_last {f : Bool} {s : List Char} {n : Nat} (h : LabelsG f s n) :
    s ≠ [] ∧ s.getLast? ≠ some '.' := by
  induction h with
  | one hl =>
    obtain ⟨hnd, hne⟩ := labelG_nodot_ne_nil hl
    exact ⟨hne, fun h => hnd (List.mem_of_getLast? h)⟩
  | @cons f l s' n m hl _ ih =>
    refine ⟨by simp, ?_⟩
    rw [getLast?_append_cons]
    cases s' with
    | nil => exact absurd rfl ih.1
    | cons c cs =>
      rw [List.getLast?_cons_cons]
      exact ih.2

theorem validateLabels_of_LabelsG {f : Bool} {body : List Char} {m : Nat} (h : LabelsG f body m) :
    ∀ idx total, f = (idx == 0) →
      validateLabels idx (splitDots body) total = .ok (total + 1 + m) := by
  induction h with
  | @one f l n hl =>
    intro idx total hf
    subst hf
    rw [splitDots_nodot (labelG_nodot_ne_nil hl).1]
    simp [validateLabels, (labelG_nodot_ne_nil hl).2, scanLabel_of_LabelG hl]
  | @cons f l s n m hl _ ih =>
    intro idx total hf
    subst hf
    rw [splitDots_append (labelG_nodot_ne_nil hl).1]
    simp only [validateLabels, (labelG_nodot_ne_nil hl).2, if_false, scanLabel_of_LabelG hl]
    rw [ih (idx + 1) (total + 1 + n) (by simp)]
    congr 1
    omega

theorem LabelsG_of_validateLabels {ls : List (List Char)} (hne : ls ≠ []) :
    ∀ idx total t, validateLabels idx ls total = .ok t →
      ∃ m, LabelsG (idx == 0) (joinSep '.' ls) m ∧ t = total + 1 + m := by
  induction ls with
  | nil => exact absurd rfl hne
  | cons l ls ih =>
    intro idx total t h
    simp only [validateLabels] at h
    split at h
    · cases h
    · split at h
      · cases h
      · rename_i n hn
        have hl := LabelG_of_scanLabel hn
        cases ls with
        | nil =>
          simp only [validateLabels, Except.ok.injEq] at h
          exact ⟨n, by simpa [joinSep] using LabelsG.one hl, h.symm⟩
        | cons l' ls' =>
          obtain ⟨m, hm, ht⟩ := ih (by simp) (idx + 1) _ t h
          rw [show (idx + 1 == 0) = false by simp] at hm
          exact ⟨n + 1 + m, by simpa [joinSep] using LabelsG.cons hl hm, by omega⟩

theorem labelsOf_snoc_dot (b : List Char) : labelsOf (b ++ ['.']) = splitDots b := by
  simp [labelsOf, splitDots_snoc_dot]

theorem labelsOf_of_last {s : List Char} (h : s.getLast? ≠ some '.') :
    labelsOf s = splitDots s := by
  simp [labelsOf, h]

theorem validate_ok_iff {s body : List Char} (hs : s ≠ []) (hl : labelsOf s = splitDots body) :
    validate s = .ok () ↔ ∃ n, LabelsG true body n ∧ n ≤ 253 := by
  unfold validate
  rw [if_neg hs, hl]
  constructor
  · intro h
    split at h
    · cases h
    rename_i total htot
    obtain ⟨m, hm, rfl⟩ := LabelsG_of_validateLabels (splitDots_ne_nil _) 0 0 _ htot
    rw [joinSep_splitDots] at hm
    simp only [ite_error_eq_ok] at h
    exact ⟨m, hm, by omega⟩
  · rintro ⟨n, hb, hn⟩
    rw [validateLabels_of_LabelsG hb 0 0 rfl]
    exact if_neg (by omega)

end Pxv.Domain
