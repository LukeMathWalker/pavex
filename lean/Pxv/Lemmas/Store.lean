import Pxv.Model.Store
/-!
For C13. Both backends keep their records in a `Tbl`; all a caller can observe of it is its live
view `tblLive`. `Agree` (table and abstract map have the same live view) is the refinement relation:
between agreeing states a call to either backend is a step of the specification, and one induction
takes that to histories.
-/
namespace Pxv.Store

variable {σ : Type}

@[simp] theorem get_nil (i : Nat) : get ([] : Tbl σ) i = none := rfl

theorem get_cons (j : Nat) (r : Rec σ) (t : Tbl σ) (i : Nat) :
    get ((j, r) :: t) i = if j = i then some r else get t i := rfl

theorem get_filter (P : Nat → Bool) (t : Tbl σ) (j : Nat) :
    get (t.filter (fun p => P p.1)) j = if P j then get t j else none := by
  induction t with
  | nil => simp
  | cons p t ih =>
    obtain ⟨k, r⟩ := p
    by_cases hk : k = j
    · subst hk
      cases hp : P k <;> simp [hp, get, ih]
    · cases hp : P k <;> simp [hp, get, hk, ih]

theorem get_erase (t : Tbl σ) (i j : Nat) :
    get (erase t i) j = if j = i then none else get t j := by
  simp [erase, get_filter (· != i)]

theorem get_eraseAll (t : Tbl σ) (ids : List Nat) (j : Nat) :
    get (eraseAll t ids) j = if j ∈ ids then none else get t j := by
  rw [eraseAll, get_filter (fun k => !ids.contains k)]
  simp

theorem get_put (t : Tbl σ) (i : Nat) (r : Rec σ) (j : Nat) :
    get (put t i r) j = if j = i then some r else get t j := by
  simp only [put, get_cons, get_erase, eq_comm (a := i)]
  split <;> rfl

theorem get_isSome_iff_mem_keys (t : Tbl σ) (i : Nat) :
    (get t i).isSome = true ↔ i ∈ keys t := by
  induction t with
  | nil => simp [keys]
  | cons p t ih =>
    rw [get_cons, keys, List.map_cons, List.mem_cons, ← keys, ← ih, eq_comm (a := i)]
    split <;> simp [*]

theorem erase_of_get_none {t : Tbl σ} {i : Nat} (h : get t i = none) : erase t i = t := by
  refine List.filter_eq_self.mpr fun p hp => ?_
  have : i ∉ keys t := by
    rw [← get_isSome_iff_mem_keys, h]
    simp
  exact bne_iff_ne.mpr fun e => this (e ▸ List.mem_map_of_mem (f := (·.1)) hp)

/-- `HashMap` / `PRIMARY KEY`: at most one entry per id. -/
def WF (t : Tbl σ) : Prop := (keys t).Nodup

theorem wf_nil : WF ([] : Tbl σ) := List.nodup_nil

theorem wf_filter {t : Tbl σ} (wf : WF t) (q : Nat × Rec σ → Bool) : WF (t.filter q) :=
  List.Nodup.sublist (List.Sublist.map _ List.filter_sublist) wf

theorem wf_erase {t : Tbl σ} (wf : WF t) (i : Nat) : WF (erase t i) := wf_filter wf _

theorem wf_eraseAll {t : Tbl σ} (wf : WF t) (ids : List Nat) : WF (eraseAll t ids) :=
  wf_filter wf _

theorem wf_put {t : Tbl σ} (wf : WF t) (i : Nat) (r : Rec σ) : WF (put t i r) := by
  have hi : i ∉ keys (erase t i) := by
    rw [← get_isSome_iff_mem_keys, get_erase, if_pos rfl]
    nofun
  exact List.nodup_cons.mpr ⟨hi, wf_erase wf i⟩

theorem length_eraseAll (t : Tbl σ) (ids : List Nat) (wf : WF t) (nd : ids.Nodup)
    (sub : ∀ i ∈ ids, i ∈ keys t) : (eraseAll t ids).length + ids.length = t.length := by
  -- the keys of the removed rows are `ids` up to order: duplicate-free lists with the same members
  have hp : ((keys t).filter ids.contains).Perm ids :=
    (List.perm_ext_iff_of_nodup (wf.sublist List.filter_sublist) nd).mpr fun i => by
      simpa using sub i
  have hgone : (t.filter fun p => ids.contains p.1).length = ids.length := by
    rw [← hp.length_eq, keys, List.filter_map, List.length_map]
    rfl
  -- removed and kept rows partition the table
  rw [eraseAll, ← hgone, ← List.countP_eq_length_filter, ← List.countP_eq_length_filter,
    Nat.add_comm, List.length_eq_countP_add_countP (fun p => ids.contains p.1) (l := t)]
  simp

def liveOpt (now : Nat) (o : Option (Rec σ)) : Option (Rec σ) :=
  match o with
  | some r => if live now r then some r else none
  | none => none

/-- What an observer can learn about id `i` from the physical table at time `now`. -/
def tblLive (t : Tbl σ) (now i : Nat) : Option (Rec σ) := liveOpt now (get t i)

theorem liveAt_eq (a : AMap σ) (now i : Nat) : a.liveAt now i = liveOpt now (a i) := rfl

theorem liveOpt_some_eq (now : Nat) (r : Rec σ) :
    liveOpt now (some r) = if now < r.deadline then some r else none := by
  simp [liveOpt, live]

theorem liveOpt_some {now : Nat} {o : Option (Rec σ)} {r : Rec σ} (h : liveOpt now o = some r) :
    o = some r ∧ now < r.deadline := by
  cases o with
  | none => cases h
  | some r' =>
    rw [liveOpt_some_eq] at h
    split at h
    · next hl =>
      cases h
      exact ⟨rfl, hl⟩
    · cases h

theorem liveOpt_none_iff {now : Nat} {o : Option (Rec σ)} :
    liveOpt now o = none ↔ ∀ r, o = some r → r.deadline ≤ now := by
  cases o with
  | none => exact ⟨fun _ _ => nofun, fun _ => rfl⟩
  | some r' => simp [liveOpt_some_eq]

theorem liveOpt_mono {now now' : Nat} (h : now ≤ now') (o : Option (Rec σ)) :
    liveOpt now' (liveOpt now o) = liveOpt now' o := by
  cases o with
  | none => rfl
  | some r =>
    rw [liveOpt_some_eq now]
    split
    · rfl
    · next hd =>
      rw [liveOpt_some_eq, if_neg fun hl => hd (Nat.lt_of_le_of_lt h hl)]
      rfl

theorem tblLive_some {t : Tbl σ} {now i : Nat} {r : Rec σ} (h : tblLive t now i = some r) :
    get t i = some r ∧ now < r.deadline := liveOpt_some h

theorem tblLive_none_of_dead {t : Tbl σ} {now i : Nat} {r : Rec σ} (hg : get t i = some r)
    (hd : r.deadline ≤ now) : tblLive t now i = none := by
  rw [tblLive, hg, liveOpt_some_eq, if_neg (Nat.not_lt.mpr hd)]

/-- Moving the live record of `o` to another id `n`, as both backends do it. -/
theorem tblLive_rename {t : Tbl σ} {now o n : Nat} {r : Rec σ} (ho : tblLive t now o = some r)
    (hno : n ≠ o) :
    tblLive (put (erase t o) n r) now n = some r ∧ tblLive (put (erase t o) n r) now o = none
    ∧ ∀ j, j ≠ o → j ≠ n → get (put (erase t o) n r) j = get t j := by
  refine ⟨?_, ?_, fun j h1 h2 => ?_⟩
  · rw [tblLive, get_put, if_pos rfl, liveOpt_some_eq, if_pos (tblLive_some ho).2]
  · rw [tblLive, get_put, if_neg (Ne.symm hno), get_erase, if_pos rfl]
    rfl
  · rw [get_put, if_neg h2, get_erase, if_neg h1]

theorem memStale_eq (now : Nat) (r : Rec σ) : memStale now r = !live now r := by
  simp only [memStale, live, ← Nat.not_lt, decide_not]

theorem memFresh_eq (t : Tbl σ) (now i : Nat) : memFresh t now i = tblLive t now i := by
  unfold memFresh tblLive liveOpt
  cases get t i with
  | none => rfl
  | some r => cases h : live now r <;> simp [memStale_eq, h]

theorem sqlSel_eq (t : Tbl σ) (nowS i : Nat) : sqlSel t nowS i = tblLive t nowS i := by
  unfold sqlSel tblLive liveOpt sqlLive live
  cases get t i <;> rfl

theorem memDelete_eq (t : Tbl σ) (now i : Nat) :
    memDelete t now i = (erase t i, tblLive t now i) := by
  unfold memDelete tblLive liveOpt
  cases h : get t i with
  | none => rw [erase_of_get_none h]
  | some r => cases hl : live now r <;> simp [memStale_eq, hl]

/-- `INSERT … ON CONFLICT(id) DO UPDATE … WHERE sessions.deadline <= unixepoch()` writes unless the
    row is live. Used as `↓sqlStep_create`, so that `simp` takes it before it unfolds `sqlStep`
    itself. -/
theorem sqlStep_create (t : Tbl σ) (now i ttl : Nat) (st : σ) :
    sqlStep now (.create i st ttl) t = match tblLive t (now / 1000) i with
      | none => (put t i ⟨st, (now + ttl) / 1000⟩, .ok)
      | some _ => (t, .ok) := by
  simp only [sqlStep, tblLive]
  cases get t i with
  | none => rfl
  | some r =>
    -- the statement tests `deadline ≤ now`, the live view `now < deadline`
    by_cases h : r.deadline ≤ now / 1000
    · simp [liveOpt_some_eq, h, Nat.not_lt.mpr h]
    · simp [liveOpt_some_eq, h, Nat.lt_of_not_le h]

/-- The refinement relation: table and abstract map show the same live records. -/
def Agree (now : Nat) (t : Tbl σ) (a : AMap σ) : Prop := ∀ i, tblLive t now i = a.liveAt now i

theorem agree_empty (now : Nat) : Agree now ([] : Tbl σ) AMap.empty := fun _ => rfl

theorem agree_mono {now now' : Nat} {t : Tbl σ} {a : AMap σ} (h : now ≤ now') (ag : Agree now t a) :
    Agree now' t a := fun i => by
  rw [tblLive, liveAt_eq, ← liveOpt_mono h (get t i), ← liveOpt_mono h (a i)]
  exact congrArg _ (ag i)

theorem agree_cases {now : Nat} {t : Tbl σ} {a : AMap σ} (ag : Agree now t a) (i : Nat) :
    (tblLive t now i = none ∧ a.liveAt now i = none) ∨
    ∃ r, tblLive t now i = some r ∧ a.liveAt now i = some r ∧ get t i = some r
      ∧ now < r.deadline := by
  cases h : tblLive t now i with
  | none => exact Or.inl ⟨rfl, ag i ▸ h⟩
  | some r => exact Or.inr ⟨r, rfl, ag i ▸ h, tblLive_some h⟩

theorem set_apply (a : AMap σ) (i : Nat) (v : Option (Rec σ)) (j : Nat) :
    a.set i v j = if j = i then v else a j := rfl

theorem set_of_ne (a : AMap σ) (v : Option (Rec σ)) {i j : Nat} (h : (i == j) = false) :
    a.set i v j = a j :=
  if_neg fun e => by simp [e] at h

theorem agree_set {now i : Nat} {t t' : Tbl σ} {a : AMap σ} {v : Option (Rec σ)}
    (ag : Agree now t a) (h : ∀ j, get t' j = if j = i then v else get t j) :
    Agree now t' (a.set i v) := fun j => by
  rw [tblLive, liveAt_eq, h, set_apply]
  split
  · rfl
  · exact ag j

theorem agree_put {now : Nat} {t : Tbl σ} {a : AMap σ} (ag : Agree now t a) (i : Nat) (r : Rec σ) :
    Agree now (put t i r) (a.set i (some r)) :=
  agree_set ag (get_put t i r)

theorem agree_erase {now : Nat} {t : Tbl σ} {a : AMap σ} (ag : Agree now t a) (i : Nat) :
    Agree now (erase t i) (a.set i none) :=
  agree_set ag (get_erase t i)

theorem agree_filter_dead {now : Nat} {t : Tbl σ} {a : AMap σ} (ag : Agree now t a) (P : Nat → Bool)
    (hd : ∀ i, P i = false → tblLive t now i = none) :
    Agree now (t.filter (fun p => P p.1)) a := fun j => by
  rw [← ag j, tblLive, get_filter]
  cases h : P j
  · exact (hd j h).symm
  · rfl

theorem agree_erase_dead {now : Nat} {t : Tbl σ} {a : AMap σ} (ag : Agree now t a) (i : Nat)
    (hd : tblLive t now i = none) : Agree now (erase t i) a :=
  agree_filter_dead ag (· != i) fun j hj => by rwa [show j = i by simpa using hj]

theorem agree_eraseAll_dead {now : Nat} {t : Tbl σ} {a : AMap σ} (ag : Agree now t a)
    (ids : List Nat) (hd : ∀ i ∈ ids, tblLive t now i = none) : Agree now (eraseAll t ids) a :=
  agree_filter_dead ag (fun j => !ids.contains j) fun j hj => hd j (by simpa using hj)

theorem mem_dedup (l : List Nat) (x : Nat) : x ∈ dedup l ↔ x ∈ l := by
  induction l with
  | nil => simp [dedup]
  | cons y l ih =>
    simp only [dedup, List.mem_cons, List.mem_filter, ih, bne_iff_ne]
    by_cases hx : x = y <;> simp [hx]

theorem nodup_dedup (l : List Nat) : (dedup l).Nodup := by
  induction l with
  | nil => exact List.nodup_nil
  | cons y l ih =>
    refine List.nodup_cons.mpr ⟨?_, ih.sublist List.filter_sublist⟩
    simp [List.mem_filter]

theorem nodup_iterOrder (t : Tbl σ) (ord : List Nat) : (iterOrder t ord).Nodup := by
  refine List.nodup_append.mpr ⟨(nodup_dedup _).sublist List.filter_sublist,
    (nodup_dedup _).sublist List.filter_sublist, ?_⟩
  rintro a ha _ hb rfl
  have h1 := (mem_dedup ord a).mp (List.mem_filter.mp ha).1
  simpa [h1] using (List.mem_filter.mp hb).2

theorem mem_iterOrder (t : Tbl σ) (ord : List Nat) (i : Nat) :
    i ∈ iterOrder t ord ↔ i ∈ keys t := by
  simp only [iterOrder, List.mem_append, List.mem_filter, mem_dedup, get_isSome_iff_mem_keys]
  by_cases ho : i ∈ ord <;> simp [ho]

/-- What `delete_expired` collects in either backend: the ids, in traversal order, whose row
    satisfies `P`, cut at the batch size. -/
def sweep (P : Rec σ → Bool) (t : Tbl σ) (batch : Option Nat) (ord : List Nat) : List Nat :=
  let l := (iterOrder t ord).filter (fun i => match get t i with
    | some r => P r
    | none => false)
  match batch with
  | some b => l.take b
  | none => l

theorem memStaleIds_eq (t : Tbl σ) (now : Nat) (batch : Option Nat) (ord : List Nat) :
    memStaleIds t now batch ord = sweep (memStale now) t batch ord := rfl

theorem sqlExpiredIds_eq (t : Tbl σ) (nowS : Nat) (batch : Option Nat) (ord : List Nat) :
    sqlExpiredIds t nowS batch ord = sweep (fun r => decide (r.deadline < nowS)) t batch ord := rfl

theorem mem_sweep_none {P : Rec σ → Bool} {t : Tbl σ} {ord : List Nat} {i : Nat} :
    i ∈ sweep P t none ord ↔ ∃ r, get t i = some r ∧ P r = true := by
  simp only [sweep, List.mem_filter, mem_iterOrder, ← get_isSome_iff_mem_keys]
  cases get t i <;> simp

theorem sweep_sublist (P : Rec σ → Bool) (t : Tbl σ) (batch : Option Nat) (ord : List Nat) :
    (sweep P t batch ord).Sublist (sweep P t none ord) := by
  cases batch with
  | none => exact List.Sublist.refl _
  | some b => exact List.take_sublist _ _

theorem mem_sweep {P : Rec σ → Bool} {t : Tbl σ} {batch : Option Nat} {ord : List Nat} {i : Nat}
    (h : i ∈ sweep P t batch ord) : ∃ r, get t i = some r ∧ P r = true :=
  mem_sweep_none.mp ((sweep_sublist P t batch ord).subset h)

theorem get_eraseAll_sweep_none {P : Rec σ → Bool} {t : Tbl σ} {ord : List Nat} {j : Nat}
    {r : Rec σ} (h : get (eraseAll t (sweep P t none ord)) j = some r) : P r = false := by
  rw [get_eraseAll] at h
  split at h
  · cases h
  · next hj => exact Bool.eq_false_iff.mpr fun hp => hj (mem_sweep_none.mpr ⟨r, h, hp⟩)

theorem nodup_sweep (P : Rec σ → Bool) (t : Tbl σ) (batch : Option Nat) (ord : List Nat) :
    (sweep P t batch ord).Nodup :=
  ((nodup_iterOrder t ord).sublist List.filter_sublist).sublist (sweep_sublist P t batch ord)

theorem length_eraseAll_sweep (P : Rec σ → Bool) {t : Tbl σ} (wf : WF t) (batch : Option Nat)
    (ord : List Nat) :
    (eraseAll t (sweep P t batch ord)).length + (sweep P t batch ord).length = t.length :=
  length_eraseAll t _ wf (nodup_sweep P t batch ord) fun i hi => by
    obtain ⟨r, hg, _⟩ := mem_sweep hi
    rw [← get_isSome_iff_mem_keys, hg]
    rfl

/-- C13 (3) for an arbitrary row predicate `P` (memory: `deadline ≤ now`, SQLite:
    `deadline < now / 1000`). -/
theorem sweep_exact (P : Rec σ → Bool) {t : Tbl σ} (wf : WF t) (batch : Option Nat)
    (ord : List Nat) :
    let ids := sweep P t batch ord
    (∀ i ∈ ids, ∃ r, get t i = some r ∧ P r = true)
    ∧ (∀ j, j ∉ ids → get (eraseAll t ids) j = get t j)
    ∧ (∀ j, j ∈ ids → get (eraseAll t ids) j = none)
    ∧ (eraseAll t ids).length + ids.length = t.length
    ∧ (∀ b, batch = some b → ids.length ≤ b)
    ∧ (batch = none → ∀ j r, get (eraseAll t ids) j = some r → P r = false) :=
  ⟨fun _ => mem_sweep,
    fun j hj => by rw [get_eraseAll, if_neg hj],
    fun j hj => by rw [get_eraseAll, if_pos hj],
    length_eraseAll_sweep P wf batch ord,
    fun _ hb => hb ▸ List.length_take_le _ _,
    fun hb _ _ => hb ▸ get_eraseAll_sweep_none⟩

/-- Memory backend: every call is a step of the specification (strict policy). -/
theorem mem_sim {now : Nat} {t : Tbl σ} {a : AMap σ} (ag : Agree now t a) (op : Op σ) :
    absRes 1 now (memStep now op t).2 = (specStep (Policy.strict false) now (absOp 1 now op) a).2
    ∧ Agree now (memStep now op t).1
        (specStep (Policy.strict false) now (absOp 1 now op) a).1 := by
  -- each call first looks at the live record of the id it names, on which both sides agree
  cases op <;> simp only [memStep, specStep, absOp, memFresh_eq, memDelete_eq, Nat.div_one]
  case create i st ttl =>
    rcases agree_cases ag i with ⟨h1, h2⟩ | ⟨r, h1, h2, -⟩ <;> simp only [h1, h2]
    · exact ⟨rfl, agree_put ag _ _⟩
    · exact ⟨rfl, ag⟩
  case update i st ttl | updateTtl i ttl =>
    rcases agree_cases ag i with ⟨h1, h2⟩ | ⟨r, h1, h2, -⟩ <;> simp only [h1, h2]
    · exact ⟨rfl, ag⟩
    · exact ⟨rfl, agree_put ag _ _⟩
  case load i =>
    rcases agree_cases ag i with ⟨h1, h2⟩ | ⟨r, h1, h2, -, hl⟩ <;>
      simp only [h1, h2, absRes, Nat.div_one]
    · exact ⟨trivial, ag⟩
    · -- the answer carries `deadline - now`, the specification's the deadline
      exact ⟨by rw [Nat.add_sub_cancel' (Nat.le_of_lt hl)], ag⟩
  case delete i =>
    rcases agree_cases ag i with ⟨h1, h2⟩ | ⟨r, h1, h2, -⟩ <;> simp only [h1, h2]
    · -- the row of an expired record is removed all the same
      exact ⟨rfl, agree_erase_dead ag i h1⟩
    · exact ⟨rfl, agree_erase ag i⟩
  case changeId o n =>
    rcases agree_cases ag o with ⟨h1, h2⟩ | ⟨r, h1, h2, -⟩ <;> simp only [h1, h2]
    · exact ⟨rfl, ag⟩
    · by_cases hno : n = o
      · subst hno
        simp only [h1, h2, if_true]
        exact ⟨rfl, ag⟩
      · rcases agree_cases ag n with ⟨k1, k2⟩ | ⟨r', k1, k2, -⟩ <;>
          simp only [k1, k2, hno, if_false]
        · exact ⟨rfl, agree_put (agree_erase ag o) n r⟩
        · exact ⟨rfl, ag⟩
  case deleteExpired batch ord =>
    refine ⟨rfl, agree_eraseAll_dead ag _ fun i hi => ?_⟩
    obtain ⟨r, hg, hd⟩ := mem_sweep (memStaleIds_eq t now batch ord ▸ hi)
    exact tblLive_none_of_dead hg (of_decide_eq_true hd)

/-- SQLite backend: every call that is not one of the two recorded findings is a step of the
    specification (at second resolution); with `createOnLiveOk` the first finding is absorbed. -/
theorem sql_sim {now : Nat} {t : Tbl σ} {a : AMap σ} (p : Policy) (hp : p.renameSelfOk = true)
    (ag : Agree (now / 1000) t a) (op : Op σ)
    (hc : p.createOnLiveOk = true ∨ sqlCreateOnLive now op t = false)
    (hs : sqlSquattedRename now op t = false) :
    absRes 1000 now (sqlStep now op t).2 = (specStep p (now / 1000) (absOp 1000 now op) a).2
    ∧ Agree (now / 1000) (sqlStep now op t).1
        (specStep p (now / 1000) (absOp 1000 now op) a).1 := by
  cases op <;> simp only [↓sqlStep_create, sqlStep, specStep, absOp, sqlSel_eq]
  case create i st ttl =>
    rcases agree_cases ag i with ⟨h1, h2⟩ | ⟨r, h1, h2, -⟩ <;> simp only [h1, h2]
    · exact ⟨rfl, agree_put ag _ _⟩
    · -- `create` on a live id answers `ok`: the policy allows that, or the call is finding 1
      rcases hc with hc | hc
      · simp only [hc, if_true]
        exact ⟨rfl, ag⟩
      · simp [sqlCreateOnLive, sqlSel_eq, h1] at hc
  case update i st ttl | updateTtl i ttl =>
    rcases agree_cases ag i with ⟨h1, h2⟩ | ⟨r, h1, h2, -⟩ <;> simp only [h1, h2]
    · exact ⟨rfl, ag⟩
    · exact ⟨rfl, agree_put ag _ _⟩
  case load i =>
    rcases agree_cases ag i with ⟨h1, h2⟩ | ⟨r, h1, h2, -, hl⟩ <;> simp only [h1, h2, absRes]
    · exact ⟨trivial, ag⟩
    · -- `(now + (deadline * 1000 - now)) / 1000 = deadline`, as `now / 1000 < deadline`
      exact ⟨by congr 3; omega, ag⟩
  case delete i =>
    rcases agree_cases ag i with ⟨h1, h2⟩ | ⟨r, h1, h2, -⟩ <;> simp only [h1, h2]
    · exact ⟨rfl, ag⟩
    · exact ⟨rfl, agree_erase ag i⟩
  case changeId o n =>
    rcases agree_cases ag o with ⟨h1, h2⟩ | ⟨r, h1, h2, -⟩ <;> simp only [h1, h2]
    · exact ⟨rfl, ag⟩
    · by_cases hno : n = o
      · subst hno
        simp only [if_true, hp]
        exact ⟨rfl, ag⟩
      · simp only [hno, if_false]
        -- the statement looks at the raw row of `n`, the specification at its live record
        rcases agree_cases ag n with ⟨k1, k2⟩ | ⟨r', k1, k2, hg, -⟩ <;> simp only [k2]
        · cases hg : get t n with
          | none => exact ⟨rfl, agree_put (agree_erase ag o) n r⟩
          | some _ =>
            -- a row that is there but not live: finding 2
            simp [sqlSquattedRename, sqlSel_eq, h1, k1, hg, hno] at hs
        · simp only [hg]
          exact ⟨rfl, ag⟩
  case deleteExpired batch ord =>
    refine ⟨rfl, agree_eraseAll_dead ag _ fun i hi => ?_⟩
    obtain ⟨r, hg, hd⟩ := mem_sweep (sqlExpiredIds_eq t _ batch ord ▸ hi)
    exact tblLive_none_of_dead hg (Nat.le_of_lt (of_decide_eq_true hd))

/-- One induction for both backends: a one-step simulation (possibly only for calls that are `ok`
    in the sense of a guard `bad`) lifts to every history; time only moves forward. -/
theorem refines_of_sim {S : Type} (g : Nat) (step : Nat → Op σ → S → S × Res σ) (p : Policy)
    (bad : Nat → Op σ → S → Bool) (Inv : Nat → S → AMap σ → Prop)
    (mono : ∀ n n' s a, n ≤ n' → Inv n s a → Inv n' s a)
    (sim : ∀ now op s a, Inv now s a → bad now op s = false →
      absRes g now (step now op s).2 = (specStep p (now / g) (absOp g now op) a).2
      ∧ Inv now (step now op s).1 (specStep p (now / g) (absOp g now op) a).1) :
    ∀ (h : List (Nat × Op σ)) (now : Nat) (s : S) (a : AMap σ), Inv now s a →
      anyStep step bad now s h = false → runObs g step now s h = specObs p g now a h := by
  intro h
  induction h with
  | nil => intros; rfl
  | cons x h ih =>
    obtain ⟨d, op⟩ := x
    intro now s a inv hb
    simp only [anyStep, Bool.or_eq_false_iff] at hb
    have inv' := mono now (now + d) s a (Nat.le_add_right _ _) inv
    obtain ⟨h1, h2⟩ := sim (now + d) op s a inv' hb.1
    simp only [runObs, specObs]
    rw [h1, ih (now + d) _ _ h2 hb.2]

theorem anyStep_false_of_never {S R : Type} (step : Nat → Op σ → S → S × R)
    (h : List (Nat × Op σ)) :
    ∀ (now : Nat) (s : S), anyStep step (fun _ _ _ => false) now s h = false := by
  induction h with
  | nil => intros; rfl
  | cons x h ih =>
    intro now s
    simp [anyStep, ih]

theorem anyStep_or {S R : Type} (step : Nat → Op σ → S → S × R) (p q : Nat → Op σ → S → Bool)
    (h : List (Nat × Op σ)) : ∀ (now : Nat) (s : S),
    anyStep step (fun n o s => p n o s || q n o s) now s h
      = (anyStep step p now s h || anyStep step q now s h) := by
  induction h with
  | nil => intros; rfl
  | cons x h ih =>
    intro now s
    simp only [anyStep, ih]
    ac_rfl

theorem runState_inv {S R : Type} (step : Nat → Op σ → S → S × R) (Q : S → Prop)
    (hq : ∀ now op s, Q s → Q (step now op s).1) (h : List (Nat × Op σ)) :
    ∀ (now : Nat) (s : S), Q s → Q (runState step now s h).2 := by
  induction h with
  | nil => exact fun _ _ q => q
  | cons x h ih => exact fun now s q => ih _ _ (hq _ _ _ q)

theorem memStep_wf {t : Tbl σ} (wf : WF t) (now : Nat) (op : Op σ) : WF (memStep now op t).1 := by
  cases op <;> simp only [memStep, memFresh_eq, memDelete_eq]
  case create i _ _ =>
    cases tblLive t now i with
    | none => exact wf_put wf _ _
    | some _ => exact wf
  case update i _ _ | updateTtl i _ =>
    cases tblLive t now i with
    | none => exact wf
    | some _ => exact wf_put wf _ _
  case load i => cases tblLive t now i <;> exact wf
  case delete i => cases tblLive t now i <;> exact wf_erase wf _
  case changeId o n =>
    cases tblLive t now o with
    | none => exact wf
    | some r =>
      cases tblLive t now n with
      | none => exact wf_put (wf_erase wf _) _ _
      | some _ => exact wf
  case deleteExpired => exact wf_eraseAll wf _

theorem sqlStep_wf {t : Tbl σ} (wf : WF t) (now : Nat) (op : Op σ) : WF (sqlStep now op t).1 := by
  cases op <;> simp only [↓sqlStep_create, sqlStep, sqlSel_eq]
  case create i _ _ =>
    cases tblLive t (now / 1000) i with
    | none => exact wf_put wf _ _
    | some _ => exact wf
  case update i _ _ | updateTtl i _ =>
    cases tblLive t (now / 1000) i with
    | none => exact wf
    | some _ => exact wf_put wf _ _
  case load i => cases tblLive t (now / 1000) i <;> exact wf
  case delete i =>
    cases tblLive t (now / 1000) i with
    | none => exact wf
    | some _ => exact wf_erase wf _
  case changeId o n =>
    cases tblLive t (now / 1000) o with
    | none => exact wf
    | some r =>
      by_cases h : n = o
      · simp only [if_pos h]
        exact wf
      · simp only [if_neg h]
        cases get t n with
        | none => exact wf_put (wf_erase wf _) _ _
        | some _ => exact wf
  case deleteExpired => exact wf_eraseAll wf _

theorem absRes_ok_iff (g now : Nat) (r : Res σ) : absRes g now r = .ok ↔ r = .ok := by
  cases r with
  | loaded o => rcases o with _ | ⟨st, ttl⟩ <;> simp [absRes]
  | _ => simp [absRes]

end Pxv.Store
