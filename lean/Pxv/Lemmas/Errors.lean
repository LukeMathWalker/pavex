import Pxv.Model.Errors
import Pxv.Lemmas.Basic
/-! Lemmas for C06 about one generated closure: the binding discipline of the generated code is an invariant
of `exec` (`Inv`), shown round by round; from it, what ran and in which order. The calls inlined in front of
a node, and the propositions behind the check `armsWF`. -/
namespace Pxv.Err
open Graph

theorem isStructural_of_isMatcher {k : Kind} (h : isMatcher k = true) : isStructural k = true := by
  unfold isMatcher at h
  split at h <;> first | rfl | cases h

theorem isUnit_not_structural {k : Kind} (h : isUnit k = true) : isStructural k = false := by
  unfold isUnit at h
  split at h <;> first | rfl | cases h

theorem isEh_not_unit {k : Kind} (h : isEh k = true) : isUnit k = false := by
  unfold isEh at h
  split at h <;> first | rfl | cases h

theorem isEh_not_structural {k : Kind} (h : isEh k = true) : isStructural k = false := by
  unfold isEh at h
  split at h <;> first | rfl | cases h

theorem isEh_not_canFail {k : Kind} (h : isEh k = true) : canFail k = false := by
  unfold isEh at h
  split at h <;> first | rfl | cases h

/-- `p` is passed as an argument to `n`. -/
def DataEdge (g : Graph) (p n : Nat) : Prop := p ∈ g.dataPreds n

/-- `n` is computed from `a` (through arguments only; happens-before edges carry no value). -/
inductive DataPath (g : Graph) (a : Nat) : Nat → Prop where
  | refl : DataPath g a a
  | tail {p n : Nat} : DataPath g a p → p ∈ g.dataPreds n → DataPath g a n

theorem DataPath.single {g : Graph} {a n : Nat} (h : a ∈ g.dataPreds n) : DataPath g a n :=
  .tail .refl h

theorem DataPath.trans {g : Graph} {a b c : Nat} (h1 : DataPath g a b) (h2 : DataPath g b c) :
    DataPath g a c := by
  induction h2 with
  | refl => exact h1
  | tail _ hp ih => exact .tail ih hp

theorem dataPath_head {g : Graph} {a n : Nat} (h : DataPath g a n) :
    a = n ∨ ∃ c, a ∈ g.dataPreds c ∧ DataPath g c n := by
  induction h with
  | refl => exact Or.inl rfl
  | @tail p n' _ hmem ih =>
    rcases ih with rfl | ⟨c, hc, hcp⟩
    · exact Or.inr ⟨n', hmem, .refl⟩
    · exact Or.inr ⟨c, hc, .tail hcp hmem⟩

theorem mem_dataPreds {g : Graph} {p n : Nat} :
    p ∈ g.dataPreds n ↔ ∃ e ∈ g.edges, e.src = p ∧ e.dst = n ∧ e.kind ≠ .before := by
  simp only [Graph.dataPreds, List.mem_map, List.mem_filter, Bool.and_eq_true, beq_iff_eq,
    bne_iff_ne]
  constructor
  · rintro ⟨e, ⟨he, hd, hk⟩, hs⟩
    exact ⟨e, he, hs, hd, hk⟩
  · rintro ⟨e, he, hs, hd, hk⟩
    exact ⟨e, ⟨he, hd, hk⟩, hs⟩

theorem mem_succs {g : Graph} {a b : Nat} :
    b ∈ g.succs a ↔ ∃ e ∈ g.edges, e.src = a ∧ e.dst = b := by
  simp only [Graph.succs, List.mem_map, List.mem_filter, beq_iff_eq]
  constructor
  · rintro ⟨e, ⟨he, hs⟩, hd⟩
    exact ⟨e, he, hs, hd⟩
  · rintro ⟨e, he, hs, hd⟩
    exact ⟨e, ⟨he, hs⟩, hd⟩

theorem mem_befores {g : Graph} {p n : Nat} :
    p ∈ g.befores n ↔ p < g.size ∧ (⟨p, n, .before⟩ : Edge) ∈ g.edges := by
  simp only [Graph.befores, List.mem_filter, List.mem_range, List.any_eq_true, Bool.and_eq_true,
    beq_iff_eq]
  constructor
  · rintro ⟨hp, ⟨s, d, k⟩, he, ⟨rfl, rfl⟩, rfl⟩
    exact ⟨hp, he⟩
  · rintro ⟨hp, he⟩
    exact ⟨hp, ⟨p, n, .before⟩, he, ⟨rfl, rfl⟩, rfl⟩

theorem mem_unitBefores {g : Graph} {p n : Nat} : p ∈ unitBefores g n ↔
    p < g.size ∧ (⟨p, n, .before⟩ : Edge) ∈ g.edges ∧ isUnit (g.kind p) = true := by
  simp only [unitBefores, List.mem_filter, mem_befores, and_assoc]

theorem unitBefores_nodup (g : Graph) (n : Nat) : (unitBefores g n).Nodup :=
  (List.filter_sublist.trans List.filter_sublist).nodup List.nodup_range

theorem sinksOf_no_succs {g : Graph} {a t : Nat} (h : t ∈ g.sinksOf a) : g.succs t = [] := by
  simpa using (List.mem_filter.mp h).2

theorem kind_of_ge {g : Graph} {n : Nat} (h : g.size ≤ n) : g.kind n = .other := by
  simp [Graph.kind, List.getElem?_eq_none (show g.nodes.length ≤ n from h)]

theorem lt_size_of_kind {g : Graph} {n : Nat} (h : g.kind n ≠ .other) : n < g.size :=
  Nat.lt_of_not_le fun hle => h (kind_of_ge hle)

theorem isEh_lt {g : Graph} {n : Nat} (h : isEh (g.kind n) = true) : n < g.size :=
  lt_size_of_kind fun hk => by rw [hk] at h; cases h

/-- every matcher hangs off one node only (its `MatchBranching` node). -/
def OneParent (g : Graph) : Prop :=
  ∀ m, isMatcher (g.kind m) = true → ∀ e ∈ g.edges, ∀ e' ∈ g.edges, e.dst = m → e'.dst = m → e.src = e'.src

/-- The binding discipline of the generated code, as an invariant of `exec`'s state. -/
structure Inv (g : Graph) (fails : Kind → Bool) (st : St) : Prop where
  /-- a statement only refers to values that are bound -/
  preds : ∀ n ∈ st.bound, isMatcher (g.kind n) = false → ∀ p ∈ g.dataPreds n, p ∈ st.bound
  befs : ∀ n ∈ st.bound, isStructural (g.kind n) = false → ∀ p ∈ g.befores n, p ∈ st.bound
  /-- a matcher is bound only by entering its arm -/
  matchers : ∀ n ∈ st.bound, isMatcher (g.kind n) = true → n ∈ st.chosen
  /-- the arm entered is the one the outcome of the fallible component selects -/
  chosen : ∀ v ∈ st.chosen, ∃ b x, b ∈ st.bound ∧ g.kind b = .branch ∧ v ∈ g.succs b ∧
    scrutinee g b = some x ∧ g.kind v = (if fails (g.kind x) then Kind.errMatch else Kind.okMatch)
  ran : ∀ n ∈ st.ran, n ∈ st.bound ∧ isStructural (g.kind n) = false ∧ isUnit (g.kind n) = false
  boundRan : ∀ n ∈ st.bound, isStructural (g.kind n) = false → isUnit (g.kind n) = false → n ∈ st.ran
  errs : ∀ v, v ∈ st.errs ↔ (v ∈ st.chosen ∧ g.kind v = .errMatch)
  /-- statements run after the statements that compute their arguments -/
  order : ∀ r1 n r2, st.ran = r1 ++ n :: r2 → ∀ p ∈ g.dataPreds n,
    isStructural (g.kind p) = false → isUnit (g.kind p) = false → p ∈ r1

theorem Inv.init (g : Graph) (fails : Kind → Bool) : Inv g fails {} where
  preds := by simp
  befs := by simp
  matchers := by simp
  chosen := by simp
  ran := by simp
  boundRan := by simp
  errs := by simp
  order := by simp

theorem Inv.setStuck {g : Graph} {fails : Kind → Bool} {st : St} (h : Inv g fails st) :
    Inv g fails { st with stuck := true } :=
  ⟨h.preds, h.befs, h.matchers, h.chosen, h.ran, h.boundRan, h.errs, h.order⟩

/-- the invariant survives binding `n`, a node that is no matcher and whose arguments and happens-before
    predecessors are bound, provided `n` is recorded as run exactly if it is a statement with an output. -/
theorem Inv.bind {g : Graph} {fails : Kind → Bool} {st : St} {n : Nat} {ran' : List Nat} (h : Inv g fails st)
    (hm : isMatcher (g.kind n) = false) (hp : ∀ p ∈ g.dataPreds n, p ∈ st.bound)
    (hb : isStructural (g.kind n) = false → ∀ p ∈ g.befores n, p ∈ st.bound)
    (hr : ran' = st.ran ∧ (isStructural (g.kind n) = true ∨ isUnit (g.kind n) = true) ∨
      ran' = st.ran ++ [n] ∧ isStructural (g.kind n) = false ∧ isUnit (g.kind n) = false) :
    Inv g fails { st with bound := n :: st.bound, ran := ran' } where
  preds := List.forall_mem_cons.mpr
    ⟨fun _ p hpm => List.mem_cons_of_mem _ (hp p hpm),
     fun m hmem hmm p hpm => List.mem_cons_of_mem _ (h.preds m hmem hmm p hpm)⟩
  befs := List.forall_mem_cons.mpr
    ⟨fun hms p hpm => List.mem_cons_of_mem _ (hb hms p hpm),
     fun m hmem hms p hpm => List.mem_cons_of_mem _ (h.befs m hmem hms p hpm)⟩
  matchers := List.forall_mem_cons.mpr
    ⟨fun hmm => absurd hmm (Bool.eq_false_iff.mp hm), h.matchers⟩
  chosen v hv :=
    let ⟨b, x, hb1, hrest⟩ := h.chosen v hv
    ⟨b, x, List.mem_cons_of_mem _ hb1, hrest⟩
  errs := h.errs
  ran m hmem := by
    rcases hr with ⟨rfl, -⟩ | ⟨rfl, hs, hu⟩
    · exact (h.ran m hmem).imp_left (List.mem_cons_of_mem _)
    · rcases List.mem_append.mp hmem with hmem | hmem
      · exact (h.ran m hmem).imp_left (List.mem_cons_of_mem _)
      · cases List.mem_singleton.mp hmem
        exact ⟨List.mem_cons_self, hs, hu⟩
  boundRan m hmem hms hmu := by
    rcases List.mem_cons.mp hmem with rfl | hold
    · -- the new node is a statement with an output, so it was recorded
      rcases hr with ⟨-, hs | hu⟩ | ⟨rfl, -⟩
      · rw [hs] at hms; cases hms
      · rw [hu] at hmu; cases hmu
      · exact List.mem_append_right _ List.mem_cons_self
    · rcases hr with ⟨rfl, -⟩ | ⟨rfl, -⟩
      · exact h.boundRan m hold hms hmu
      · exact List.mem_append_left _ (h.boundRan m hold hms hmu)
  order r1 m r2 heq p hpm hps hpu := by
    rcases hr with ⟨rfl, -⟩ | ⟨rfl, -⟩
    · exact h.order r1 m r2 heq p hpm hps hpu
    · -- either `m` is the new last statement, or the split is inside the old `ran`
      have heq : st.ran ++ [n] = r1 ++ m :: r2 := heq
      rcases List.eq_nil_or_concat r2 with rfl | ⟨r2', z, rfl⟩
      · obtain ⟨rfl, hnm⟩ := List.append_inj' heq rfl
        cases hnm
        exact h.boundRan p (hp p hpm) hps hpu
      · have heq' : st.ran ++ [n] = (r1 ++ m :: r2') ++ [z] := by rw [heq]; simp
        exact h.order r1 m r2' (List.append_inj' heq' rfl).1 p hpm hps hpu

/-- … and entering the arm of the matcher `v` below a bound `MatchBranching` node `s`. -/
theorem Inv.enter {g : Graph} {fails : Kind → Bool} {st : St} {s x v : Nat} (h : Inv g fails st)
    (hsb : s ∈ st.bound) (hs : g.kind s = .branch) (hx : scrutinee g s = some x) (hv : v ∈ g.succs s)
    (hk : g.kind v = (if fails (g.kind x) then Kind.errMatch else Kind.okMatch)) :
    Inv g fails { st with bound := v :: st.bound, chosen := v :: st.chosen,
                          errs := if fails (g.kind x) then v :: st.errs else st.errs } :=
  have hvm : isMatcher (g.kind v) = true := by rw [hk]; split <;> rfl
  have hvs : isStructural (g.kind v) = true := isStructural_of_isMatcher hvm
  { preds := List.forall_mem_cons.mpr
      ⟨fun hnm => absurd hvm (Bool.eq_false_iff.mp hnm),
       fun n hn hnm p hpn => List.mem_cons_of_mem _ (h.preds n hn hnm p hpn)⟩
    befs := List.forall_mem_cons.mpr
      ⟨fun hns => absurd hvs (Bool.eq_false_iff.mp hns),
       fun n hn hns p hpn => List.mem_cons_of_mem _ (h.befs n hn hns p hpn)⟩
    matchers := List.forall_mem_cons.mpr
      ⟨fun _ => List.mem_cons_self,
       fun n hn hnm => List.mem_cons_of_mem _ (h.matchers n hn hnm)⟩
    chosen := List.forall_mem_cons.mpr
      ⟨⟨s, x, List.mem_cons_of_mem _ hsb, hs, hv, hx, hk⟩,
       fun w hw =>
        let ⟨b, y, hb1, hrest⟩ := h.chosen w hw
        ⟨b, y, List.mem_cons_of_mem _ hb1, hrest⟩⟩
    ran := fun n hn => (h.ran n hn).imp_left (List.mem_cons_of_mem _)
    boundRan := List.forall_mem_cons.mpr
      ⟨fun hns => absurd hvs (Bool.eq_false_iff.mp hns), h.boundRan⟩
    order := h.order
    errs := fun w => by
      rw [List.mem_cons]
      cases hf : fails (g.kind x) with
      | false =>
        rw [hf] at hk
        rw [if_neg Bool.false_ne_true, h.errs w]
        constructor
        · rintro ⟨hw, hke⟩
          exact ⟨Or.inr hw, hke⟩
        · rintro ⟨rfl | hw, hke⟩
          · rw [hk] at hke; cases hke
          · exact ⟨hw, hke⟩
      | true =>
        rw [hf] at hk
        rw [if_pos rfl, List.mem_cons, h.errs w]
        constructor
        · rintro (rfl | ⟨hw, hke⟩)
          · exact ⟨Or.inl rfl, hk⟩
          · exact ⟨Or.inr hw, hke⟩
        · rintro ⟨rfl | hw, hke⟩
          · exact Or.inl rfl
          · exact Or.inr ⟨hw, hke⟩ }

/-- `v` is the arm to enter at the `MatchBranching` node `s` in state `st`: the arguments of `s` are bound, and
    `v` is the matcher below `s` that the outcome of the fallible component `x` selects. -/
structure Arm (g : Graph) (fails : Kind → Bool) (st : St) (s x v : Nat) : Prop where
  branch : g.kind s = .branch
  scrut : scrutinee g s = some x
  preds : ∀ p ∈ g.dataPreds s, p ∈ st.bound
  succ : v ∈ g.succs s
  kind : g.kind v = (if fails (g.kind x) then Kind.errMatch else Kind.okMatch)

/-- The invariant survives binding a `MatchBranching` node together with the arm to enter below it. -/
theorem Inv.arm {g : Graph} {fails : Kind → Bool} {st : St} {s x v : Nat} (h : Inv g fails st)
    (a : Arm g fails st s x v) :
    Inv g fails { st with bound := v :: s :: st.bound, chosen := v :: st.chosen,
                          errs := if fails (g.kind x) then v :: st.errs else st.errs } :=
  have hsm : isMatcher (g.kind s) = false := by rw [a.branch]; rfl
  have hss : isStructural (g.kind s) = true := by rw [a.branch]; rfl
  have hbound : Inv g fails { st with bound := s :: st.bound, ran := st.ran } :=
    h.bind hsm a.preds (fun hns => absurd hss (Bool.eq_false_iff.mp hns))
      (Or.inl ⟨rfl, Or.inl hss⟩)
  hbound.enter List.mem_cons_self a.branch a.scrut a.succ a.kind

theorem all_contains {l b : List Nat} (h : l.all b.contains = true) : ∀ p ∈ l, p ∈ b := by
  simpa using h

theorem step_inv {g : Graph} {fails : Kind → Bool} {st : St} (n : Nat) (h : Inv g fails st) :
    Inv g fails (step g st n) := by
  unfold step
  simp only
  split
  · exact h
  · rename_i hs
    have hs : isStructural (g.kind n) = false := by simpa using hs
    have hm : isMatcher (g.kind n) = false :=
      Bool.eq_false_iff.mpr fun hm => by rw [isStructural_of_isMatcher hm] at hs; cases hs
    split
    · rename_i hc
      rw [Bool.and_eq_true] at hc
      have hpreds := all_contains hc.1
      have hbefs := all_contains hc.2
      split
      · rename_i hu
        exact h.bind hm hpreds (fun _ => hbefs) (Or.inl ⟨rfl, Or.inr hu⟩)
      · rename_i hu
        exact h.bind hm hpreds (fun _ => hbefs) (Or.inr ⟨rfl, hs, by simpa using hu⟩)
    · exact h.setStuck

theorem step_frame (g : Graph) (st : St) (n : Nat) : (step g st n).chosen = st.chosen ∧
    ((step g st n).ran = st.ran ∨ (step g st n).ran = st.ran ++ [n]) := by
  unfold step
  simp only
  split
  · exact ⟨rfl, Or.inl rfl⟩
  · split
    · split
      · exact ⟨rfl, Or.inl rfl⟩
      · exact ⟨rfl, Or.inr rfl⟩
    · exact ⟨rfl, Or.inl rfl⟩

theorem foldl_step_inv {g : Graph} {fails : Kind → Bool} (blk : List Nat) {st : St} (h : Inv g fails st) :
    Inv g fails (blk.foldl (step g) st) := by
  induction blk generalizing st with
  | nil => exact h
  | cons n rest ih => exact ih (step_inv n h)

theorem foldl_step_frame (g : Graph) : ∀ (blk : List Nat) (st : St),
    (blk.foldl (step g) st).chosen = st.chosen ∧
      ∃ l, l.Sublist blk ∧ (blk.foldl (step g) st).ran = st.ran ++ l
  | [], st => ⟨rfl, [], .slnil, by simp⟩
  | n :: rest, st => by
    obtain ⟨hc, l, hl, he⟩ := foldl_step_frame g rest (step g st n)
    obtain ⟨hc', h | h⟩ := step_frame g st n
    · exact ⟨hc.trans hc', l, hl.cons _, by rw [List.foldl_cons, he, h]⟩
    · exact ⟨hc.trans hc', n :: l, hl.cons_cons _, by rw [List.foldl_cons, he, h]; simp⟩

theorem minOf_mem {l : List Nat} {m : Nat} (h : minOf l = some m) : m ∈ l :=
  List.min?_mem (xs := l) (by cases l <;> exact h)

/-- How a round of `exec` ends once the statements of its block `blk` have been emitted, into `st1`: code
    generation is stuck; or `exec` returns `s`, a bound node among the targets; or the arm `v` below the
    `MatchBranching` node `s` is entered and `exec` goes on with targets below `v`. `res` is what `exec` returns. -/
inductive Round (g : Graph) (fails : Kind → Bool) (fuel : Nat) (targets fin blk : List Nat) (st1 : St)
    (res : St × Option Nat) : Prop where
  | stuck (eq : res = ({ st1 with stuck := true }, none))
  | ret {s : Nat} (bound : s ∈ st1.bound) (target : s ∈ targets) (eq : res = (st1, some s))
  | enter {s x v : Nat} {tg : List Nat} (arm : Arm g fails st1 s x v)
      (below : ∀ r ∈ tg, r ∈ g.sinksOf v)
      (eq : res = exec g fails fuel tg (fin ++ blk)
        { st1 with bound := v :: s :: st1.bound, chosen := v :: st1.chosen,
                   errs := if fails (g.kind x) then v :: st1.errs else st1.errs })

/-- One round of `exec`: the statements of a duplicate-free block `blk` of pending nodes are emitted; then the
    round ends in one of the three ways of `Round`. -/
theorem exec_succ (g : Graph) (fails : Kind → Bool) (fuel : Nat) (targets fin : List Nat) (st : St) :
    ∃ blk : List Nat, blk.Nodup ∧ (∀ n ∈ blk, n ∉ fin) ∧
      Round g fails fuel targets fin blk (blk.foldl (step g) st)
        (exec g fails (fuel + 1) targets fin st) := by
  generalize hres : exec g fails (fuel + 1) targets fin st = res
  unfold exec at hres
  split at hres
  · exact ⟨[], .nil, by simp, .stuck hres.symm⟩
  · rename_i t ht
    simp only at hres
    generalize hs : (minOf ((g.branchAnc t).filter (fun b => !fin.contains b))).getD t = s at hres
    generalize hblk : (List.range (s + 1)).filter
      (fun n => !fin.contains n && (component g s).contains n) = blk at hres
    refine ⟨blk, ?_, ?_, ?_⟩
    · rw [← hblk]; exact List.filter_sublist.nodup List.nodup_range
    · intro n hn hc
      rw [← hblk] at hn
      simpa [hc] using (List.mem_filter.mp hn).2
    · by_cases hbr : (g.kind s == .branch) = true
      · rw [if_pos hbr] at hres
        split at hres
        · exact .stuck hres.symm
        · rename_i x hx
          by_cases hall : (g.dataPreds s).all (blk.foldl (step g) st).bound.contains = true
          · simp only [hall, Bool.not_true, Bool.false_eq_true, ↓reduceIte] at hres
            split at hres
            · exact .stuck hres.symm
            · rename_i v hv
              have harm : Arm g fails (blk.foldl (step g) st) s x v :=
                { branch := beq_iff_eq.mp hbr
                  scrut := hx
                  preds := all_contains hall
                  succ := List.mem_of_find?_eq_some hv
                  kind := by simpa using List.find?_some hv }
              refine .enter (arm := harm) (below := fun r hr => ?_) (eq := hres.symm)
              -- the new targets: the old ones that lie below `v` or, if there is none, all terminals below `v`
              split at hr
              · exact hr
              · simpa using (List.mem_filter.mp hr).2
          · rw [Bool.not_eq_true] at hall
            simp only [hall, Bool.not_false, ↓reduceIte] at hres
            exact .stuck hres.symm
      · rw [if_neg hbr] at hres
        split at hres
        · rename_i hbound
          refine .ret (bound := by simpa using hbound) (target := ?_) (eq := hres.symm)
          -- `s` is the target itself: a pending branching ancestor would be a `MatchBranching` node
          cases hmin : minOf ((g.branchAnc t).filter (fun b => !fin.contains b)) with
          | none => rw [hmin] at hs; exact hs ▸ minOf_mem ht
          | some b =>
            rw [hmin] at hs
            have hb := (List.mem_filter.mp (List.mem_filter.mp (minOf_mem hmin)).1).2
            rw [show b = s from hs] at hb
            simp only [Bool.and_eq_true] at hb
            exact absurd hb.1.1 hbr
        · exact .stuck hres.symm

/-- **the binding discipline is an invariant of the generated closure**, whatever the graph, the failing
    components, and the way basic blocks are chosen. -/
theorem exec_inv {g : Graph} {fails : Kind → Bool} :
    ∀ (fuel : Nat) (targets fin : List Nat) (st : St), Inv g fails st →
      Inv g fails (exec g fails fuel targets fin st).1
  | 0, _, _, _, h => h.setStuck
  | fuel + 1, targets, fin, st, h => by
    obtain ⟨blk, -, -, hround⟩ := exec_succ g fails fuel targets fin st
    have h1 : Inv g fails (blk.foldl (step g) st) := foldl_step_inv blk h
    cases hround with
    | stuck e => rw [e]; exact h1.setStuck
    | ret _ _ e => rw [e]; exact h1
    | enter harm _ e => rw [e]; exact exec_inv fuel _ _ _ (h1.arm harm)

/-- no statement is emitted twice on a path: what ran is duplicate-free. -/
theorem exec_ran_nodup {g : Graph} {fails : Kind → Bool} :
    ∀ (fuel : Nat) (targets fin : List Nat) (st : St), st.ran.Nodup → (∀ n ∈ st.ran, n ∈ fin) →
      (exec g fails fuel targets fin st).1.ran.Nodup
  | 0, _, _, _, h, _ => h
  | fuel + 1, targets, fin, st, h, hfin => by
    obtain ⟨blk, hnd, hdisj, hround⟩ := exec_succ g fails fuel targets fin st
    -- the round appends to `ran` some of the block's nodes, none of which is finished yet
    obtain ⟨-, l, hl, he⟩ := foldl_step_frame g blk st
    have hnd1 : (blk.foldl (step g) st).ran.Nodup := by
      rw [he]
      refine List.nodup_append.mpr ⟨h, hl.nodup hnd, fun a ha b hb hab => ?_⟩
      exact hdisj b (hl.subset hb) (hab ▸ hfin a ha)
    cases hround with
    | stuck e => rw [e]; exact hnd1
    | ret _ _ e => rw [e]; exact hnd1
    | enter _ _ e =>
      rw [e]
      refine exec_ran_nodup fuel _ _ _ hnd1 fun n hn => ?_
      rw [show _ = _ from he] at hn
      exact List.mem_append.mpr ((List.mem_append.mp hn).imp (hfin n) (hl.subset ·))

/-- what a closure returns: a bound terminal, among the targets it was asked for or, once an arm was
    entered, among the terminals below the matcher of the last arm entered. -/
theorem exec_ret {g : Graph} {fails : Kind → Bool} :
    ∀ (fuel : Nat) (targets fin : List Nat) (st st' : St) (r : Nat),
      exec g fails fuel targets fin st = (st', some r) →
      r ∈ st'.bound ∧ ((st'.chosen = st.chosen ∧ r ∈ targets) ∨
        ∃ v rest, st'.chosen = v :: rest ∧ r ∈ g.sinksOf v)
  | 0, _, _, _, _, _, h => nomatch h
  | fuel + 1, targets, fin, st, st', r, h => by
    obtain ⟨blk, -, -, hround⟩ := exec_succ g fails fuel targets fin st
    cases hround with
    | stuck e =>
      rw [e] at h
      cases h
    | ret hbound htarget e =>
      rw [e] at h
      cases h
      exact ⟨hbound, Or.inl ⟨(foldl_step_frame g blk st).1, htarget⟩⟩
    | @enter s x v tg _ hbelow e =>
      rw [e] at h
      obtain ⟨hr, ⟨hc, hrtg⟩ | hlater⟩ := exec_ret fuel _ _ _ st' r h
      · -- no further arm was entered: `v` is the last one, and `r` one of the targets below it
        exact ⟨hr, Or.inr ⟨v, _, hc, hbelow r hrtg⟩⟩
      · exact ⟨hr, Or.inr hlater⟩

theorem bound_closed {g : Graph} {fails : Kind → Bool} {st : St} (h : Inv g fails st) (hop : OneParent g)
    {n p : Nat} (hn : n ∈ st.bound) (hp : p ∈ g.dataPreds n) : p ∈ st.bound := by
  cases hm : isMatcher (g.kind n) with
  | false => exact h.preds n hn hm p hp
  | true =>
    obtain ⟨b, x, hb, _, hvb, _, _⟩ := h.chosen n (h.matchers n hn hm)
    obtain ⟨e, he, hes, hed, _⟩ := mem_dataPreds.mp hp
    obtain ⟨e', he', hes', hed'⟩ := mem_succs.mp hvb
    rw [← hes, hop n hm e he e' he' hed hed', hes']
    exact hb

theorem bound_of_path {g : Graph} {fails : Kind → Bool} {st : St} (h : Inv g fails st) (hop : OneParent g)
    {a n : Nat} (hpath : DataPath g a n) (hn : n ∈ st.bound) : a ∈ st.bound := by
  induction hpath with
  | refl => exact hn
  | tail _ hp ih => exact ih (bound_closed h hop hn hp)

theorem errs_of_path {g : Graph} {fails : Kind → Bool} {st : St} (h : Inv g fails st) (hop : OneParent g)
    {m n : Nat} (hk : g.kind m = .errMatch) (hpath : DataPath g m n) (hn : n ∈ st.bound) : m ∈ st.errs :=
  (h.errs m).mpr ⟨h.matchers m (bound_of_path h hop hpath hn) (by rw [hk]; rfl), hk⟩

/-- the calls inlined in front of `n` are calls of output-less happens-before ancestors of `n`: of nodes
    with `P`, for every `P` that holds of `n` and is inherited along `unitBefores`. -/
theorem frag_mem {g : Graph} {P : Nat → Prop} (hP : ∀ n, P n → ∀ p ∈ unitBefores g n, P p) :
    ∀ (fuel n : Nat), P n → ∀ e ∈ frag g fuel n,
      e = Ev.call e.node (g.kind e.node) ∧ isUnit (g.kind e.node) = true ∧ P e.node
  | 0, _, _, e, he => nomatch he
  | fuel + 1, n, hn, e, he => by
    simp only [frag, List.mem_flatMap, List.mem_append, List.mem_singleton] at he
    obtain ⟨p, hp, he | rfl⟩ := he
    · exact frag_mem hP fuel p (hP n hn p hp) e he
    · exact ⟨rfl, (List.mem_filter.mp hp).2, hP n hn p hp⟩

theorem frag_unit (g : Graph) (fuel n : Nat) : ∀ e ∈ frag g fuel n, isUnit e.kind = true := by
  intro e he
  obtain ⟨hcall, hunit, -⟩ :=
    frag_mem (P := fun _ => True) (fun _ _ _ _ => trivial) fuel n trivial e he
  rw [hcall]
  exact hunit

theorem evAt_node (g : Graph) (fails : Kind → Bool) (n : Nat) : (evAt g fails n).node = n := by
  unfold evAt; split <;> rfl

theorem evAt_kind (g : Graph) (fails : Kind → Bool) (n : Nat) : (evAt g fails n).kind = g.kind n := by
  unfold evAt; split <;> rfl

theorem out_bound {g : Graph} {fails : Kind → Bool} {st : St} (h : Inv g fails st) :
    ∀ e ∈ outOf g fails st, e.node ∈ st.bound ∧ e.kind = g.kind e.node := by
  intro e he
  simp only [outOf, List.mem_flatMap, emit, List.mem_append, List.mem_singleton] at he
  obtain ⟨n, hn, he | rfl⟩ := he
  · -- an inlined call: its node happens before `n` through a chain of statements, all of them bound
    obtain ⟨hnb, hns, -⟩ := h.ran n hn
    have hanc : ∀ n, n ∈ st.bound ∧ isStructural (g.kind n) = false →
        ∀ p ∈ unitBefores g n, p ∈ st.bound ∧ isStructural (g.kind p) = false := by
      rintro n ⟨hnb, hns⟩ p hp
      obtain ⟨hpb, hpu⟩ := List.mem_filter.mp hp
      exact ⟨h.befs n hnb hns p hpb, isUnit_not_structural hpu⟩
    obtain ⟨hcall, -, ⟨hb, -⟩⟩ := frag_mem hanc _ n ⟨hnb, hns⟩ e he
    exact ⟨hb, by rw [hcall]; rfl⟩
  · rw [evAt_node, evAt_kind]
    exact ⟨(h.ran n hn).1, rfl⟩

theorem frag_eq_chain {g : Graph} (hs : ∀ n, (unitBefores g n).length ≤ 1) :
    ∀ (fuel n : Nat), frag g fuel n = (chainOf g fuel n).map (fun p => Ev.call p (g.kind p))
  | 0, _ => rfl
  | fuel + 1, n => by
    simp only [frag, chainOf]
    match hub : unitBefores g n, hs n with
    | [], _ => rfl
    | [p], _ => simp [frag_eq_chain hs fuel p]
    | _ :: _ :: _, h => simp at h

theorem filter_eh_out (g : Graph) (fails : Kind → Bool) (ran : List Nat) :
    (ran.flatMap (emit g fails)).filter (fun e => isEh e.kind) =
      (ran.filter (fun n => isEh (g.kind n))).map (fun n => Ev.call n (g.kind n)) := by
  induction ran with
  | nil => rfl
  | cons n rest ih =>
    have hfrag : (frag g g.size n).filter (fun e => isEh e.kind) = [] :=
      List.filter_eq_nil_iff.mpr fun e he hk => by
        have := frag_unit g g.size n e he
        rw [isEh_not_unit hk] at this; cases this
    simp only [List.flatMap_cons, List.filter_append, ih, emit, hfrag, List.nil_append,
      List.filter_cons, List.filter_nil, evAt_kind]
    split
    · rename_i hn; simp [evAt, isEh_not_canFail hn]
    · rfl

theorem filter_unit_out (g : Graph) (fails : Kind → Bool) (ran : List Nat)
    (hran : ∀ n ∈ ran, isUnit (g.kind n) = false) :
    (ran.flatMap (emit g fails)).filter (fun e => isUnit e.kind) = ran.flatMap (frag g g.size) := by
  induction ran with
  | nil => rfl
  | cons n rest ih =>
    have hrest := ih fun k hk => hran k (List.mem_cons_of_mem _ hk)
    have hfrag : (frag g g.size n).filter (fun e => isUnit e.kind) = frag g g.size n :=
      List.filter_eq_self.mpr (frag_unit g g.size n)
    have hn : isUnit (g.kind n) = false := hran n List.mem_cons_self
    simp only [List.flatMap_cons, List.filter_append, emit, hrest, hfrag, List.filter_cons,
      evAt_kind, hn, Bool.false_eq_true, ↓reduceIte, List.filter_nil, List.append_nil]

theorem eq_singleton_of_nodup {l : List Nat} {a : Nat} (hnd : l.Nodup) (h : ∀ p, p ∈ l ↔ p = a) : l = [a] :=
  have hperm : l.Perm [a] :=
    (List.perm_ext_iff_of_nodup hnd (List.pairwise_singleton _ a)).mpr fun p =>
      (h p).trans List.mem_singleton.symm
  List.perm_singleton.mp hperm

theorem filter_all_eq {l : List Nat} {h : Nat} {q : Nat → Bool} (hnd : l.Nodup) (hmem : h ∈ l) (hq : q h = true)
    (hall : ∀ n ∈ l, q n = true → n = h) : l.filter q = [h] :=
  eq_singleton_of_nodup (hnd.filter q) fun p =>
    ⟨fun hp => hall p (List.mem_filter.mp hp).1 (List.mem_filter.mp hp).2,
     fun hp => hp ▸ List.mem_filter.mpr ⟨hmem, hq⟩⟩

theorem length_le_one_eq {α : Type} {l : List α} {a b : α} (h : l.length ≤ 1) (ha : a ∈ l) (hb : b ∈ l) :
    a = b := by
  match l, h with
  | [x], _ => rw [List.mem_singleton.mp ha, List.mem_singleton.mp hb]

theorem OneParent.of_check {g : Graph} (h : oneParent g = true) : OneParent g := by
  intro m hm e he e' he' hd hd'
  have hlt : m < g.size := lt_size_of_kind fun hk => by rw [hk] at hm; cases hm
  have := List.all_eq_true.mp h m (List.mem_range.mpr hlt)
  rw [hm] at this
  have hle : (g.edges.filter (·.dst == m)).length ≤ 1 := by simpa using this
  have hmem : e ∈ g.edges.filter (·.dst == m) := List.mem_filter.mpr ⟨he, by simpa using hd⟩
  have hmem' : e' ∈ g.edges.filter (·.dst == m) :=
    List.mem_filter.mpr ⟨he', by simpa using hd'⟩
  exact congrArg Edge.src (length_le_one_eq hle hmem hmem')

theorem dedup_subset (l : List Nat) : ∀ x ∈ dedup l, x ∈ l := fun x hx => by
  simpa using (mem_foldl_insertEnd (fun c => c) l [] x).1 hx

theorem ancFrom_sound {g : Graph} {t : Nat} : ∀ (fuel : Nat) (frontier seen : List Nat),
    (∀ x ∈ frontier, DataPath g x t) → (∀ x ∈ seen, DataPath g x t) →
    ∀ x ∈ ancFrom g fuel frontier seen, DataPath g x t
  | 0, _, _, _, hs => hs
  | fuel + 1, frontier, seen, hf, hs => by
    intro x hx
    simp only [ancFrom] at hx
    have hnext : ∀ y ∈ dedup ((frontier.flatMap g.dataPreds).filter
        (fun n => !seen.contains n)), DataPath g y t := by
      intro y hy
      obtain ⟨f, hfm, hyf⟩ := List.mem_flatMap.mp (List.mem_filter.mp (dedup_subset _ y hy)).1
      exact (DataPath.single hyf).trans (hf f hfm)
    split at hx
    · exact hs x hx
    · have hseen : ∀ y ∈ seen ++ dedup ((frontier.flatMap g.dataPreds).filter
          (fun n => !seen.contains n)), DataPath g y t :=
        fun y hy => (List.mem_append.mp hy).elim (hs y) (hnext y)
      exact ancFrom_sound fuel _ _ hnext hseen x hx

theorem dataAnc_sound {g : Graph} {h t : Nat} (hm : h ∈ dataAnc g t) : DataPath g h t :=
  have h1 : ∀ x ∈ [t], DataPath g x t := fun _ hx => List.mem_singleton.mp hx ▸ .refl
  ancFrom_sound g.size [t] [t] h1 h1 h hm

/-- What the check `armsWF` establishes (`ArmsWF.of_check`). -/
structure ArmsWF (g : Graph) : Prop where
  oneParent : OneParent g
  single : ∀ n, (unitBefores g n).length ≤ 1
  ehMatcher : ∀ h, isEh (g.kind h) = true → ∃ m, ehMatchers g h = [m]
  oneHandler : ∀ m h h', isEh (g.kind h) = true → isEh (g.kind h') = true →
    m ∈ ehMatchers g h → m ∈ ehMatchers g h' → h = h'
  inlined : ∀ n, isUnit (g.kind n) = false → unitBefores g n ≠ [] →
    ∃ h, g.dataPreds n = [h] ∧ isEh (g.kind h) = true ∧
      ∀ n', isUnit (g.kind n') = false → unitBefores g n' ≠ [] → g.dataPreds n' = [h] → n' = n
  sinks : ∀ m h, g.kind m = .errMatch → isEh (g.kind h) = true → m ∈ ehMatchers g h →
    ∀ t ∈ g.sinksOf m, DataPath g h t

theorem mem_ehMatchers_kind {g : Graph} {m h : Nat} (hm : m ∈ ehMatchers g h) : g.kind m = .errMatch := by
  simp only [ehMatchers, List.mem_append, List.mem_filter, List.mem_flatMap, beq_iff_eq] at hm
  rcases hm with ⟨_, hk⟩ | ⟨_, _, _, hk⟩ <;> exact hk

theorem ehMatchers_path {g : Graph} {m h : Nat} (hm : m ∈ ehMatchers g h) : DataPath g m h := by
  simp only [ehMatchers, List.mem_append, List.mem_filter, List.mem_flatMap] at hm
  rcases hm with ⟨hm, _⟩ | ⟨e, ⟨he, _⟩, hm, _⟩
  · exact .single hm
  · exact .tail (.single hm) he

theorem lt_of_unitBefores_ne_nil {g : Graph} (ho : g.ordered = true) {n : Nat} (hne : unitBefores g n ≠ []) :
    n < g.size := by
  obtain ⟨p, hp⟩ := List.exists_mem_of_ne_nil _ hne
  have := List.all_eq_true.mp ho _ (mem_unitBefores.mp hp).2.1
  simp only [Bool.and_eq_true, decide_eq_true_eq] at this
  exact this.2

theorem ArmsWF.of_check {g : Graph} (h : armsWF g = true) : ArmsWF g := by
  simp only [armsWF, Bool.and_eq_true] at h
  obtain ⟨⟨⟨⟨⟨⟨hord, hpar⟩, hsingle⟩, hmatcher⟩, hsole⟩, hinl⟩, hsinks⟩ := h
  have hall {q : Nat → Bool} (hq : (List.range g.size).all q = true) {n : Nat} (hn : n < g.size) :
      q n = true :=
    List.all_eq_true.mp hq n (List.mem_range.mpr hn)
  have hmemf {m x : Nat} (hx : isEh (g.kind x) = true) (hm : m ∈ ehMatchers g x) :
      x ∈ (List.range g.size).filter (fun h => isEh (g.kind h) && (ehMatchers g h).contains m) :=
    List.mem_filter.mpr ⟨List.mem_range.mpr (isEh_lt hx), by simp [hx, hm]⟩
  have hmlt {m x : Nat} (hm : m ∈ ehMatchers g x) : m < g.size :=
    lt_size_of_kind (by rw [mem_ehMatchers_kind hm]; exact fun hc => nomatch hc)
  constructor
  case oneParent => exact OneParent.of_check hpar
  case single =>
    intro n
    by_cases hne : unitBefores g n = []
    · simp [hne]
    · simpa using hall hsingle (lt_of_unitBefores_ne_nil hord hne)
  case ehMatcher =>
    intro x hx
    have := hall hmatcher (isEh_lt hx)
    rw [hx] at this
    match hl : ehMatchers g x, this with
    | [m], _ => exact ⟨m, rfl⟩
  case oneHandler =>
    intro m x x' hx hx' hm hm'
    have := hall hsole (hmlt hm)
    rw [mem_ehMatchers_kind hm] at this
    exact length_le_one_eq (by simpa using this) (hmemf hx hm) (hmemf hx' hm')
  case inlined =>
    intro n hnu hne
    have := hall hinl (lt_of_unitBefores_ne_nil hord hne)
    rw [hnu, List.isEmpty_eq_false_iff.mpr hne] at this
    match hd : g.dataPreds n, this with
    | [x], this =>
      simp only [Bool.false_or, Bool.and_eq_true, decide_eq_true_eq] at this
      obtain ⟨hxeh, hxone⟩ := this
      have hmem : ∀ k, isUnit (g.kind k) = false → unitBefores g k ≠ [] →
          g.dataPreds k = [x] → k ∈ inlinedBelow g x := fun k hku hkne hkd =>
        List.mem_filter.mpr ⟨List.mem_range.mpr (lt_of_unitBefores_ne_nil hord hkne),
          by simp [hku, List.isEmpty_eq_false_iff.mpr hkne, hkd]⟩
      exact ⟨x, rfl, hxeh, fun n' hnu' hne' hd' =>
        length_le_one_eq hxone (hmem n' hnu' hne' hd') (hmem n hnu hne hd)⟩
  case sinks =>
    intro m x hk hx hm t ht
    have := hall hsinks (hmlt hm)
    rw [hk] at this
    simp only [bne_self_eq_false, Bool.false_or] at this
    have := List.all_eq_true.mp (List.all_eq_true.mp this x (hmemf hx hm)) t ht
    exact dataAnc_sound (by simpa using this)

theorem prefix_dropLast {q path : List Nat} (h : q <+: path) (hne : q ≠ path) : q <+: path.dropLast := by
  obtain ⟨t, rfl⟩ := h
  rw [List.dropLast_append_of_ne_nil (by rintro rfl; simp at hne)]
  exact List.prefix_append _ _

theorem countKind_append (g : Graph) (extra : List Kind) (p : Kind → Bool) :
    countKind { g with nodes := g.nodes ++ extra } p = countKind g p + (extra.filter p).length := by
  simp [countKind, List.filter_append]

end Pxv.Err
