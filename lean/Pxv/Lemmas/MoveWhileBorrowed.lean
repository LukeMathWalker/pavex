import Pxv.Lemmas.InsertClone
import Pxv.Lemmas.Borrow
/-! `move_while_borrowed` (mirrored in Model/Borrow.lean): what it does for one dependency of a node, and the pass on
graphs where nothing that is moved is borrowed and on graphs where whatever is moved may be cloned. -/
namespace Pxv.CG
open Graph

/-- one dependency of a node in `move_while_borrowed`: left alone; or taken by value while borrowed and not Copy: cloned
    if it may be, reported otherwise; or `&mut`-borrowed while borrowed: reported. -/
theorem mwbEdge_cases (g : Graph) (n : Nat) (immNow later : List Nat) (acc : Graph × List Diag × List (Nat × Nat))
    (e : Edge) :
    mwbEdge g n immNow later acc e = acc ∨
    ((immNow.contains e.src || later.contains e.src) = true ∧
      ((e.kind = .move ∧ (g.node e.src).copy = false ∧
          (((g.node e.src).cloneable = true ∧
              ∃ cl, mwbEdge g n immNow later acc e = ((insertClone acc.1 e.src n).1, acc.2.1, cl)) ∨
           ((g.node e.src).cloneable = false ∧
              ∃ d, mwbEdge g n immNow later acc e = (acc.1, acc.2.1 ++ [d], acc.2.2)))) ∨
       (e.kind = .excl ∧ ∃ d, mwbEdge g n immNow later acc e = (acc.1, acc.2.1 ++ [d], acc.2.2)))) := by
  generalize hr : mwbEdge g n immNow later acc e = r
  unfold mwbEdge at hr
  cases hk : e.kind with
  | move =>
    simp only [hk] at hr
    split at hr
    · exact Or.inl hr.symm
    · rename_i hc
      have hcont : (immNow.contains e.src || later.contains e.src) = true := by
        simpa only [Bool.not_eq_true', Bool.not_eq_false] using hc
      split at hr
      · exact Or.inl hr.symm
      · rename_i hcopy
        refine Or.inr ⟨hcont, Or.inl ⟨rfl, by simpa using hcopy, ?_⟩⟩
        split at hr
        · rename_i hcl
          exact Or.inl ⟨hcl, _, hr.symm⟩
        · rename_i hcl
          exact Or.inr ⟨by simpa using hcl, _, hr.symm⟩
  | shared =>
    simp only [hk] at hr
    exact Or.inl hr.symm
  | excl =>
    simp only [hk] at hr
    split at hr
    · rename_i hc
      exact Or.inr ⟨hc, Or.inr ⟨rfl, _, hr.symm⟩⟩
    · exact Or.inl hr.symm
  | before =>
    simp only [hk] at hr
    exact Or.inl hr.symm

theorem mwbNode_g_diags (cap : List (Nat × List Nat)) (st : MwbState) (n : Nat) :
    ∃ immNow later, (mwbNode cap st n).g = ((st.g.inEdges n).foldl (mwbEdge st.g n immNow later) (st.g, st.diags, [])).1 ∧
      (mwbNode cap st n).diags = ((st.g.inEdges n).foldl (mwbEdge st.g n immNow later) (st.g, st.diags, [])).2.1 := by
  unfold mwbNode
  exact ⟨_, _, rfl, rfl⟩

/-- `x` is borrowed by somebody: through a `&`/`&mut` edge, or because a value that is used somewhere holds a reference to it -/
def Bd (g : Graph) (cap : List (Nat × List Nat)) (x : Nat) : Prop :=
  (∃ e ∈ g.edges, (e.kind = .shared ∨ e.kind = .excl) ∧ e.src = x) ∨ (∃ e ∈ g.edges, x ∈ lookup cap e.src)

/-- no `&mut` edge, and whatever is taken by value is Copy or borrowed by nobody -/
def mwbQuiet (g : Graph) : Bool :=
  g.edges.all (fun e => e.kind != .excl && (e.kind != .move || (g.node e.src).copy ||
    g.edges.all (fun e' => !(e'.src == e.src && (e'.kind == .shared || e'.kind == .excl)) &&
      !(lookup (captured g) e'.src).contains e.src)))

theorem mwbQuiet_spec {g : Graph} (h : mwbQuiet g = true) {e : Edge} (he : e ∈ g.edges) :
    e.kind ≠ .excl ∧ (e.kind = .move → (g.node e.src).copy = true ∨ ¬ Bd g (captured g) e.src) := by
  unfold mwbQuiet at h
  rw [List.all_eq_true] at h
  have h1 := h e he
  simp only [Bool.and_eq_true, bne_iff_ne, ne_eq, Bool.or_eq_true] at h1
  refine ⟨h1.1, fun hk => ?_⟩
  rcases h1.2 with (h2 | h2) | h2
  · exact absurd hk h2
  · exact Or.inl h2
  · right
    rw [List.all_eq_true] at h2
    rintro (⟨e', he', hk', hs'⟩ | ⟨e', he', hm'⟩)
    · have := h2 e' he'
      rcases hk' with hk' | hk' <;> simp [hs', hk'] at this
    · have := h2 e' he'
      simp at this
      exact this.2 hm'

/-- the invariant of the second traversal of `move_while_borrowed` on a quiet graph -/
structure MwbInv (g : Graph) (st : MwbState) : Prop where
  g_eq : st.g = g
  diags : st.diags = []
  borrows : ∀ k x, x ∈ lookup st.borrows k → Bd g (captured g) x

theorem mwb_inner_quiet {g : Graph} (hq : mwbQuiet g = true) (n : Nat) (immNow later : List Nat)
    (himm : ∀ x ∈ immNow, Bd g (captured g) x) (hlat : ∀ x ∈ later, Bd g (captured g) x)
    (ins : List Edge) (hes : ∀ e ∈ ins, e ∈ g.edges) :
    ins.foldl (mwbEdge g n immNow later) (g, [], []) = (g, [], []) := by
  refine List.foldlRecOn (motive := fun acc => acc = (g, [], [])) _ _ rfl fun acc hacc e he => ?_
  subst hacc
  have hs := mwbQuiet_spec hq (hes e he)
  rcases mwbEdge_cases g n immNow later (g, [], []) e with h | ⟨hcont, hmove | hexcl⟩
  · exact h
  · -- a value that is taken by value and not Copy is borrowed by nobody: it is in neither list
    obtain ⟨hk, hcopy, _⟩ := hmove
    have hnb : ¬ Bd g (captured g) e.src :=
      (hs.2 hk).resolve_left (by rw [hcopy]; exact Bool.noConfusion)
    simp only [Bool.or_eq_true, List.contains_eq_mem, decide_eq_true_eq] at hcont
    exact absurd (hcont.elim (himm _) (hlat _)) hnb
  · exact absurd hexcl.1 hs.1

theorem mwbNode_quiet {g : Graph} (hq : mwbQuiet g = true) {st : MwbState} (h : MwbInv g st) (n : Nat) :
    MwbInv g (mwbNode (captured g) st n) := by
  obtain ⟨g0, borrows, diags⟩ := st
  obtain ⟨hg, hd, hb⟩ := h
  simp only at hg hd hb
  subst hg
  subst hd
  have hun : ∀ {a b : List Nat}, (∀ x ∈ a, Bd g0 (captured g0) x) →
      (∀ x ∈ b, Bd g0 (captured g0) x) → ∀ x ∈ union a b, Bd g0 (captured g0) x :=
    fun ha hb x hx => (mem_union.1 hx).elim (ha x) (hb x)
  have hlat : ∀ x ∈ (g0.succs n).foldl (fun acc s => union acc (lookup borrows s)) [],
      Bd g0 (captured g0) x :=
    List.foldlRecOn (motive := fun acc => ∀ x ∈ acc, Bd g0 (captured g0) x) _ _
      (fun _ hx => nomatch hx) fun acc hacc s _ => hun hacc (hb s)
  have himm : ∀ x ∈ (g0.inEdges n).foldl (fun acc e =>
      let acc := union acc (lookup (captured g0) e.src)
      if e.kind == .shared then union acc [e.src] else acc) [], Bd g0 (captured g0) x := by
    refine List.foldlRecOn (motive := fun acc => ∀ x ∈ acc, Bd g0 (captured g0) x) _ _
      (fun _ hx => nomatch hx) fun acc hacc e he => ?_
    have he := (mem_inEdges.1 he).1
    have h1 := hun hacc fun x hx => Or.inr ⟨e, he, hx⟩
    dsimp only
    split
    · rename_i hk
      have hshared : e.kind = .shared := by simpa using hk
      exact hun h1 fun x hx => Or.inl ⟨e, he, Or.inl hshared, (List.mem_singleton.1 hx).symm⟩
    · exact h1
  have hin := mwb_inner_quiet hq n _ _ himm hlat (g0.inEdges n) (fun e he => (mem_inEdges.1 he).1)
  unfold mwbNode
  simp only []
  rw [hin]
  refine ⟨rfl, rfl, fun k x hx => ?_⟩
  simp only [List.foldl_nil] at hx
  rw [lookup_setKey] at hx
  split at hx
  · refine hun (hun himm fun x h => ?_) hlat x hx
    simp only [List.mem_map, List.mem_filter] at h
    obtain ⟨e, ⟨he, hk⟩, rfl⟩ := h
    exact Or.inl ⟨e, (mem_inEdges.1 he).1, Or.inr (by simpa using hk), rfl⟩
  · exact hb k x hx

/-- **`move_while_borrowed` leaves rule-abiding call graphs alone**: with no `&mut` input anywhere and every by-value input
    Copy or borrowed by nobody (directly or through a value that holds a reference to it), the pass returns the graph
    unchanged and reports nothing. -/
theorem moveWhileBorrowed_quiet {g : Graph} (hq : mwbQuiet g = true) : moveWhileBorrowed g = (g, []) := by
  unfold moveWhileBorrowed
  have start : MwbInv g ⟨g, [], []⟩ :=
    { g_eq := rfl, diags := rfl, borrows := fun k x hx => by simp [lookup] at hx }
  have h := List.foldlRecOn (motive := MwbInv g) (postOrder g) (mwbNode (captured g)) start
    fun st h n _ => mwbNode_quiet hq h n
  simp only [h.g_eq, h.diags]

theorem postOrderLoop_nodup (g : Graph) : ∀ (fuel : Nat) (done : List Nat), done.Nodup → (∀ x ∈ done, x < g.size) →
    (postOrderLoop g fuel done).Nodup ∧ ∀ x ∈ postOrderLoop g fuel done, x < g.size := by
  intro fuel
  induction fuel with
  | zero => exact fun done h hb => ⟨h, hb⟩
  | succ f ih =>
    intro done h hb
    unfold postOrderLoop
    split
    · rename_i n hf
      have hn := List.find?_some hf
      simp only [Bool.and_eq_true, Bool.not_eq_true', List.contains_eq_mem,
        decide_eq_false_iff_not] at hn
      exact ih _ (nodup_snoc h hn.1)
        (bound_snoc hb (List.mem_range.1 (List.mem_of_find?_eq_some hf)))
    · exact ⟨h, hb⟩

/-- no `&mut` input, and whatever is taken by value is Copy or may be cloned -/
def mwbCloneable (g : Graph) : Bool :=
  g.edges.all (fun e => e.kind != .excl && (e.kind != .move || (g.node e.src).copy || (g.node e.src).cloneable))

theorem mwbCloneable_spec {g : Graph} (h : mwbCloneable g = true) {e : Edge} (he : e ∈ g.edges) :
    e.kind ≠ .excl ∧ (e.kind = .move → (g.node e.src).copy = true ∨ (g.node e.src).cloneable = true) := by
  have h1 := List.all_eq_true.1 h e he
  simp only [Bool.and_eq_true, bne_iff_ne, ne_eq, Bool.or_eq_true] at h1
  refine ⟨h1.1, fun hk => ?_⟩
  rcases h1.2 with (hnk | hcopy) | hcl
  · exact absurd hk hnk
  · exact Or.inl hcopy
  · exact Or.inr hcl

theorem mwb_inner_cloneable {g0 g : Graph} {C : Nat → Prop} (n : Nat) (hn : C n) (immNow later : List Nat)
    (ins : List Edge)
    (hes : ∀ e ∈ ins, e.kind ≠ .excl ∧ (e.kind = .move → (g.node e.src).copy = true ∨ (g.node e.src).cloneable = true))
    (acc : Graph × List Diag × List (Nat × Nat)) (hk : Clones g0 acc.1 (fun _ => True) C) (hd : acc.2.1 = []) :
    Clones g0 (ins.foldl (mwbEdge g n immNow later) acc).1 (fun _ => True) C ∧
      (ins.foldl (mwbEdge g n immNow later) acc).2.1 = [] := by
  refine List.foldlRecOn (motive := fun acc : Graph × List Diag × List (Nat × Nat) =>
    Clones g0 acc.1 (fun _ => True) C ∧ acc.2.1 = []) _ _ ⟨hk, hd⟩ fun acc h e he => ?_
  rcases mwbEdge_cases g n immNow later acc e with e1 | ⟨_, hmove | hexcl⟩
  · rw [e1]
    exact h
  · -- taken by value while borrowed and not Copy: cloned, since by `hes` it may be
    obtain ⟨hk, hcopy, hdone⟩ := hmove
    rcases hdone with ⟨_, cl, e1⟩ | ⟨hcl, _⟩
    · rw [e1]
      exact ⟨h.1.step trivial hn, h.2⟩
    · rcases (hes e he).2 hk with a | a
      · rw [hcopy] at a
        cases a
      · rw [hcl] at a
        cases a
  · -- `&mut`-borrowed: there is no such input
    exact absurd hexcl.1 (hes e he).1

/-- one node of the second traversal: the clones inserted for it leave the incoming edges of the nodes still to be examined,
    and the flags of every original node, as they were. -/
theorem mwbNode_clones {g : Graph} (hwf : g.wellFormed = true) (hq : mwbCloneable g = true) (cap : List (Nat × List Nat))
    {done : List Nat} {st : MwbState} (h : Clones g st.g (fun _ => True) (· ∈ done)) (hd : st.diags = []) {n : Nat}
    (hn : n ∉ done) (hlt : n < g.size) :
    Clones g (mwbNode cap st n).g (fun _ => True) (· ∈ done ++ [n]) ∧ (mwbNode cap st n).diags = [] := by
  obtain ⟨immNow, later, hg, hdg⟩ := mwbNode_g_diags cap st n
  rw [hg, hdg]
  refine mwb_inner_cloneable n (by simp) immNow later _ (fun e he => ?_) _
    (h.mono (fun _ h => h) (fun _ hm => List.mem_append_left _ hm)) hd
  rw [h.ins n hlt hn] at he
  have heg := (List.mem_filter.1 he).1
  have hsrc := (lt_size_of_mem_edges hwf heg).1
  rw [h.copy _ hsrc, h.cloneable _ hsrc]
  exact mwbCloneable_spec hq heg

/-- on a well-formed graph of that kind `move_while_borrowed` reports nothing, and what it returns is the graph with clones
    added, each handed to one of the nodes examined. -/
theorem moveWhileBorrowed_clones {g : Graph} (hwf : g.wellFormed = true) (hq : mwbCloneable g = true) :
    Clones g (moveWhileBorrowed g).1 (fun _ => True) (· ∈ postOrder g) ∧ (moveWhileBorrowed g).2 = [] := by
  unfold moveWhileBorrowed
  obtain ⟨hnd, hb⟩ := postOrderLoop_nodup g g.size [] List.nodup_nil (fun x hx => by cases hx)
  -- every node is examined once: when its turn comes, no clone has been inserted for it yet
  have gen : ∀ (l : List Nat) (done : List Nat) (st : MwbState), (done ++ l).Nodup →
      (∀ x ∈ l, x < g.size) → Clones g st.g (fun _ => True) (· ∈ done) ∧ st.diags = [] →
      Clones g (l.foldl (mwbNode (captured g)) st).g (fun _ => True) (· ∈ done ++ l) ∧
        (l.foldl (mwbNode (captured g)) st).diags = [] := by
    intro l
    induction l with
    | nil =>
      intro done st _ _ h
      simpa using h
    | cons a as ih =>
      intro done st hnd' hl h
      have ha : a ∉ done :=
        fun hm => (List.nodup_append.1 hnd').2.2 a hm a (List.mem_cons_self ..) rfl
      have hnd'' : ((done ++ [a]) ++ as).Nodup := by simpa [List.append_assoc] using hnd'
      have := ih (done ++ [a]) _ hnd'' (fun x hx => hl x (List.mem_cons_of_mem _ hx))
        (mwbNode_clones hwf hq (captured g) h.1 h.2 ha (hl a (List.mem_cons_self ..)))
      simpa [List.append_assoc] using this
  have hnd0 : ([] ++ postOrder g).Nodup := by simpa [postOrder] using hnd
  simpa using gen (postOrder g) [] ⟨g, [], []⟩ hnd0 hb ⟨Clones.refl .., rfl⟩

end Pxv.CG
