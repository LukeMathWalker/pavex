import Pxv.Model.Attr
/-! For C19 (attributes): the parser reads back the token list the macros write. -/
namespace Pxv.Attr

theorem strItems_toks (s : String) (ss : List String) (rest : List Tok) :
    strItems
        (.str s :: ((ss.map (fun x => [Tok.punct ',', Tok.str x])).flatten ++ .punct ']' :: rest))
      = some (s :: ss, rest) := by
  induction ss generalizing s with
  | nil => simp [strItems]
  | cons x xs ih =>
    simp only [List.map_cons, List.flatten_cons, List.cons_append, List.nil_append, strItems]
    rw [ih x]

theorem parseVal_valToks (v : Val) (rest : List Tok) :
    parseVal (valToks v ++ rest) = some (v, rest) := by
  cases v with
  | str s => simp [valToks, parseVal]
  | bool b => simp [valToks, parseVal]
  | nat n => simp [valToks, parseVal]
  | strs l =>
    cases l with
    | nil => simp [valToks, parseVal, strItems]
    | cons s ss =>
      simp only [valToks, List.cons_append, List.append_assoc, List.nil_append, parseVal]
      rw [strItems_toks]

/-- All fields carry a value (the macros never write bare words). -/
def AllValued (fs : List Field) : Prop := ∀ f ∈ fs, f.val.isSome = true

theorem parseFields_emit (fs : List Field) (hv : AllValued fs) (rest : List Tok) :
    ∀ fuel, fs.length ≤ fuel →
      parseFields fuel ((fs.map fieldToks).flatten ++ .punct ')' :: rest) = some (fs, rest) := by
  induction fs with
  | nil => intro fuel _; simp [parseFields]
  | cons f fs ih =>
    intro fuel hf
    cases fuel with
    | zero => simp at hf
    | succ fuel =>
      obtain ⟨k, v⟩ := f
      have hv' : v.isSome = true := hv ⟨k, v⟩ (by simp)
      cases v with
      | none => simp at hv'
      | some v =>
        simp only [List.map_cons, List.flatten_cons, fieldToks, List.cons_append, List.append_assoc,
          List.nil_append, parseFields, parseVal_valToks]
        rw [ih (fun x hx => hv x (by simp [hx])) fuel (by simpa using hf)]

theorem fields_length_le (fs : List Field) : fs.length ≤ (fs.map fieldToks).flatten.length := by
  induction fs with
  | nil => simp
  | cons f fs ih =>
    simp only [List.map_cons, List.flatten_cons, List.length_append, List.length_cons] at ih ⊢
    have : 1 ≤ (fieldToks f).length := by
      unfold fieldToks
      cases f.val <;> simp
    omega

/-- `syn::Attribute::parse_outer` on what a macro wrote gives back kind and fields. -/
theorem parseAttribute_emit (kind : String) (fs : List Field) (hv : AllValued fs)
    (rest : List Tok) :
    parseAttribute (attrToks kind fs ++ rest)
      = some (⟨false, ["diagnostic", "pavex", kind], .list (some fs)⟩, rest) := by
  have hp : ∀ X : List Tok, parsePath (Tok.ident kind :: Tok.punct '(' :: X)
      = some ([kind], Tok.punct '(' :: X) := by
    intro X
    simp [parsePath]
  -- the fuel `parseAttribute` gives, the number of tokens left, is enough for `fs`
  have hfuel : fs.length
      ≤ ((fs.map fieldToks).flatten ++ (Tok.punct ')' :: Tok.punct ']' :: rest)).length := by
    have := fields_length_le fs
    simp only [List.length_append, List.length_cons]
    omega
  have hf := parseFields_emit fs hv (.punct ']' :: rest) _ hfuel
  simp only [attrToks, pathToks, List.cons_append, List.nil_append, List.append_assoc,
    parseAttribute, parsePath, hp, hf]

theorem parseOuter_emit (kind : String) (fs : List Field) (hv : AllValued fs) :
    parseOuter ((attrToks kind fs).length + 1) (attrToks kind fs)
      = some [⟨false, ["diagnostic", "pavex", kind], .list (some fs)⟩] := by
  have h := parseAttribute_emit kind fs hv []
  simp only [List.append_nil] at h
  have hne : attrToks kind fs ≠ [] := by simp [attrToks]
  cases hts : attrToks kind fs with
  | nil => exact absurd hts hne
  | cons t ts =>
    rw [hts] at h
    simp only [parseOuter, h]

/-!
`darling` reads the written fields back as the macro's arguments. The written fields are a list of
required fields followed by optional ones, `l ++ optField k enc o`, and everything `fromFields` asks
of such a list is answered from the right end: the last optional field adds no duplicate and no
unknown key, is invisible to a getter for another key, and a getter for its own key reads the
argument back (the only places where an optional argument is split into absent / present).
-/

/-- Lets `simp` settle `==` on key literals through `String.reduceEq`; the proofs `String.reduceBEq`
    produces are slow to check. -/
theorem beq_eq_decide (a b : String) : (a == b) = decide (a = b) := rfl

theorem flagField_eq (k : String) (b : Bool) :
    flagField k b = optField k .bool (if b then some true else none) := by
  cases b <;> rfl

theorem allValued_nil : AllValued [] := fun _ h => nomatch h

theorem allValued_cons (f : Field) (l : List Field) :
    AllValued (f :: l) ↔ f.val.isSome = true ∧ AllValued l := List.forall_mem_cons

theorem allValued_append (l r : List Field) : AllValued (l ++ r) ↔ AllValued l ∧ AllValued r :=
  List.forall_mem_append

theorem allValued_optField {α} (k : String) (enc : α → Val) (o : Option α) :
    AllValued (optField k enc o) := by
  cases o <;> simp [AllValued, optField]

theorem spec_allValued (s : Spec) : AllValued s.fields := by
  cases s <;>
    simp only [Spec.fields, flagField_eq, allValued_append, allValued_cons, allValued_nil,
      allValued_optField, Option.isSome_some, and_self]

theorem lookup_append (k : String) (l r : List Field) :
    lookup k (l ++ r) = (lookup k l).or (lookup k r) := by
  induction l with
  | nil => rfl
  | cons f l ih =>
    simp only [List.cons_append, lookup]
    split <;> simp [ih]

theorem lookup_optField {α} (k k' : String) (enc : α → Val) (o : Option α) :
    lookup k (optField k' enc o) = if k' = k then (o.map enc).map some else none := by
  cases o <;> simp [optField, lookup]

theorem lookup_snoc_ne {α} {k k' : String} (h : k' ≠ k) (l : List Field) (enc : α → Val)
    (o : Option α) :
    lookup k (l ++ optField k' enc o) = lookup k l := by
  rw [lookup_append, lookup_optField, if_neg h, Option.or_none]

theorem lookup_snoc_self {α} {k : String} {l : List Field} (h : lookup k l = none)
    (enc : α → Val) (o : Option α) : lookup k (l ++ optField k enc o) = (o.map enc).map some := by
  rw [lookup_append, lookup_optField, if_pos rfl, h, Option.none_or]

theorem any_optField {α} (p : Field → Bool) (k : String) (enc : α → Val) (o : Option α) :
    (optField k enc o).any p = o.any fun a => p ⟨k, some (enc a)⟩ := by
  cases o <;> simp [optField]

theorem hasDup_snoc {α} {l : List Field} {k : String} (h : l.any (fun f => f.key == k) = false)
    (enc : α → Val) (o : Option α) : hasDup (l ++ optField k enc o) = hasDup l := by
  induction l with
  | nil => cases o <;> rfl
  | cons f l ih =>
    simp only [List.any_cons, Bool.or_eq_false_iff] at h
    simp only [List.cons_append, hasDup, ih h.2, List.any_append, any_optField, BEq.comm (a := k),
      h.1, Option.any_false, Bool.or_false]

theorem getBool_snoc_ne {α} {k k' : String} (h : k' ≠ k) (l : List Field) (enc : α → Val)
    (o : Option α) : getBool (l ++ optField k' enc o) k = getBool l k := by
  unfold getBool
  rw [lookup_snoc_ne h]

theorem getBool_snoc_self {k : String} {l : List Field} (h : lookup k l = none) (o : Option Bool) :
    getBool (l ++ optField k .bool o) k = .ok o := by
  cases o <;> simp only [getBool, lookup_snoc_self h, Option.map]

theorem getCloning_snoc_ne {α} {k' : String} (h : k' ≠ "cloning_policy") (l : List Field)
    (enc : α → Val) (o : Option α) : getCloning (l ++ optField k' enc o) = getCloning l := by
  unfold getCloning
  rw [lookup_snoc_ne h]

theorem getCloning_snoc_self {l : List Field} (h : lookup "cloning_policy" l = none)
    (o : Option Cloning) :
    getCloning (l ++ optField "cloning_policy" (fun c => .str c.str) o) = .ok o := by
  rcases o with _ | _ | _ <;> simp only [getCloning, lookup_snoc_self h, Option.map, Cloning.str]

theorem getMethod_snoc_ne {α} {k' : String} (h : k' ≠ "method") (l : List Field) (enc : α → Val)
    (o : Option α) : getMethod (l ++ optField k' enc o) = getMethod l := by
  unfold getMethod
  rw [lookup_snoc_ne h]

theorem getLifecycle_snoc_ne {α} {k' : String} (h : k' ≠ "lifecycle") (l : List Field)
    (enc : α → Val) (o : Option α) : getLifecycle (l ++ optField k' enc o) = getLifecycle l := by
  unfold getLifecycle
  rw [lookup_snoc_ne h]

theorem getLifecycle_cons_cons {f : Field} (hf : f.key ≠ "lifecycle") (lc : Lifecycle)
    (l : List Field) :
    getLifecycle (f :: ⟨"lifecycle", some (.str lc.str)⟩ :: l) = .ok (some lc) := by
  unfold getLifecycle
  rw [lookup, if_neg hf, lookup, if_pos rfl]
  cases lc <;> simp only [Lifecycle.str]

/-- What `darling` makes of the fields a macro wrote, for every combination of arguments: the
    properties they mean, except for `#[route]` with neither `method` nor `allow(any_method)`, where
    converting the parsed attribute panics. -/
theorem fromFields_spec (s : Spec) :
    fromFields s.kind s.fields = match s with
      | .route _ _ none _ false _ => .panic
      | s => .some (meaning s) := by
  cases s <;> simp only [Spec.kind]
  -- the branch of `fromFields` for the kind (`Spec.kind` first: rewriting it together with the rest
  -- is slow); the optional fields from the right end; getters of required arguments and the two
  -- checks evaluated
  all_goals
    simp only [fromFields, knownKeys, imp_false, Spec.fields, flagField_eq, getBool_snoc_self,
      getBool_snoc_ne, getCloning_snoc_self, getCloning_snoc_ne, getMethod_snoc_ne,
      getLifecycle_snoc_ne, getLifecycle_cons_cons, lookup_snoc_ne, lookup, hasDup_snoc, hasDup,
      List.any_append, any_optField, Option.any_false, List.any_cons, List.any_nil,
      List.contains_cons, List.contains_nil, beq_eq_decide, String.reduceEq, decide_false,
      decide_true, ↓reduceIte, ne_eq, not_false_eq_true, Bool.or_false, Bool.or_true, Bool.not_true,
      getStr, getNat]
  -- `method` of `#[route]` is split by hand: the `match` that encodes it is an auxiliary definition
  -- of `Spec.fields`, which a lemma cannot mention
  case route id path m ns any aef =>
    -- no method, one, several: the field is written out and `getMethod` evaluated on it; what is
    -- left depends on the two flags only
    rcases m with _ | _ | _ <;>
      simp only [optField, List.append_nil, List.cons_append, List.nil_append, getMethod, lookup,
        String.reduceEq, ↓reduceIte]
    all_goals cases any <;> cases ns <;> rfl
  -- what is left reads a key the list of required fields has or lacks
  all_goals
    simp only [getBool, getMethod, lookup, String.reduceEq, ↓reduceIte, Bool.false_eq_true, meaning]

theorem fromFields_emit (s : Spec) (h : s.legal = true) :
    fromFields s.kind s.fields = .some (meaning s) := by
  rw [fromFields_spec]
  split
  · exact nomatch h
  · rfl

theorem spec_kind_known (s : Spec) : (knownKeys s.kind).isSome = true ∧ s.kind ≠ "methods" := by
  -- the kind is a literal; one look-up in the table `knownKeys` for each
  cases s <;> simp only [Spec.kind] <;> exact ⟨rfl, by decide⟩

end Pxv.Attr
