import Pxv.Model.Bp
import Pxv.Model.Attr
import Pxv.Lemmas.Bp
import Pxv.Lemmas.Attr
/-!
C19 — what you register is what the compiler sees.

The blueprint builder: `run` executes a program against the public API the way the Rust code does
(push, then in-place mutation of `components[component_id]`); `meaning` says what the program
*means* (one component per statement, each property set by the last call that sets it, nested
blueprints embedded unchanged). RON (`persist` / `ron::de`) is assumed to be the identity.
-/
namespace Pxv.Bp

mutual
/-- Executing one statement appends exactly the component the statement stands for; nothing that
    was registered before is touched. -/
theorem exec_eq (comps : List Component) : (op : Op) → exec comps op = comps ++ [meaning op]
  | .constructor c loc mods => by
    simp only [exec, meaning, pushThen_eq, ctor_fold, lastSomeD_none]
  | .handler k c loc ehs => by simp only [exec, meaning, pushThen_eq, eh_fold, lastSomeD_none]
  | .errorObserver c loc => rfl
  | .errorHandler c loc => rfl
  | .prebuilt c loc mods => by simp only [exec, meaning, pushThen_eq, prebuilt_fold, lastSomeD_none]
  | .config c loc mods => by simp only [exec, meaning, pushThen_eq, config_fold, lastSomeD_none]
  | .imp i loc => rfl
  | .routes i loc => rfl
  | .nest rmods loc creation child => by
    have := execAll_eq [] child
    simp only [exec, meaning, runRMods_eq, lastSomeD_none, this, List.nil_append]
  | .nestRoutes rmods i loc => by simp only [exec, meaning, runRMods_eq, lastSomeD_none]

theorem execAll_eq (comps : List Component) :
    (ops : List Op) → execAll comps ops = comps ++ meanings ops
  | [] => by simp [execAll, meanings]
  | op :: ops => by
    rw [execAll, exec_eq comps op, execAll_eq (comps ++ [meaning op]) ops]
    simp [meanings]
end

/-- **C19 (1) build_preserves.** The schema a program persists is: its creation site, and one
    component per statement, in statement order, each carrying exactly what the statement means —
    for every program (any length, any nesting depth, any overriding calls). -/
theorem build_preserves (bp : Bp) :
    (run bp).creation = bp.creation ∧ (run bp).components = meanings bp.ops := by
  simp [run, execAll_eq]

theorem meanings_eq_map (ops : List Op) : meanings ops = ops.map meaning := by
  induction ops with
  | nil => rfl
  | cons o os ih => rw [meanings, ih, List.map_cons]

/-- **C19 (2) order preserved.** The i-th registration is the i-th component: nothing is dropped,
    duplicated or reordered. -/
theorem order_preserved (bp : Bp) (i : Nat) :
    (run bp).components.length = bp.ops.length ∧
    (run bp).components[i]? = (bp.ops[i]?).map meaning := by
  rw [(build_preserves bp).2, meanings_eq_map]
  exact ⟨List.length_map _, List.getElem?_map ..⟩

/-- **C19 (3) nesting intact.** `nest` embeds exactly the schema the child program builds on its
    own, whatever came before in the parent. -/
theorem nest_intact (comps : List Component) (rmods : List RMod) (loc creation : Loc) (child : List Op) :
    exec comps (.nest rmods loc creation child) =
      comps ++ [.nested (run ⟨creation, child⟩).creation (run ⟨creation, child⟩).components
        (lastSome rmodPrefix rmods) (lastSome rmodDomain rmods) loc] := by
  rw [exec_eq]
  simp [meaning, run, execAll_eq]

theorem lastSome_append_none {α β} (f : α → Option β) (pre post : List α)
    (h : ∀ a ∈ post, f a = none) : lastSome f (pre ++ post) = lastSome f pre := by
  induction pre with
  | nil =>
    induction post with
    | nil => rfl
    | cons a as ih =>
      simp only [List.nil_append, lastSome] at ih ⊢
      rw [ih (fun x hx => h x (by simp [hx])), h a (by simp)]
  | cons a as ih => simp only [List.cons_append, lastSome, ih]

theorem lastSome_snoc {α β} (f : α → Option β) (pre : List α) (a : α) (b : β)
    (h : f a = some b) :
    lastSome f (pre ++ [a]) = some b := by
  induction pre with
  | nil => simp [lastSome, h]
  | cons x xs ih => simp [lastSome, ih]

/-- **C19 (4) prefix_last_wins.** In a chain `….prefix(p)….nest(..)` with no later `prefix` call,
    the nested blueprint gets `p` (and the location of that call) — earlier prefixes are
    overridden, interleaved `domain` calls are irrelevant. -/
theorem prefix_last_wins (pre post : List RMod) (p : String) (l : Loc)
    (hpost : ∀ m ∈ post, rmodPrefix m = none) :
    (runRMods (pre ++ [.pfx p l] ++ post) (none, none)).1 = some (p, l) := by
  rw [runRMods_eq]
  simp only [lastSomeD_none]
  rw [lastSome_append_none _ _ _ hpost]
  exact lastSome_snoc _ _ _ _ rfl

/-- **C19 (5) domain_last_wins.** Same for `domain`. -/
theorem domain_last_wins (pre post : List RMod) (d : String) (l : Loc)
    (hpost : ∀ m ∈ post, rmodDomain m = none) :
    (runRMods (pre ++ [.dom d l] ++ post) (none, none)).2 = some (d, l) := by
  rw [runRMods_eq]
  simp only [lastSomeD_none]
  rw [lastSome_append_none _ _ _ hpost]
  exact lastSome_snoc _ _ _ _ rfl

/-- No `prefix` call, no prefix (and likewise for `domain`). -/
theorem no_prefix_no_domain (rmods : List RMod) :
    ((∀ m ∈ rmods, rmodPrefix m = none) → (runRMods rmods (none, none)).1 = none) ∧
    ((∀ m ∈ rmods, rmodDomain m = none) → (runRMods rmods (none, none)).2 = none) := by
  rw [runRMods_eq]
  simp only [lastSomeD_none]
  constructor
  · intro h
    simpa [lastSome] using lastSome_append_none rmodPrefix [] rmods h
  · intro h
    simpa [lastSome] using lastSome_append_none rmodDomain [] rmods h

/-- **C19 (6) lifecycles, cloning policies, lints, error handlers, locations carried.** A
    constructor registered with a chain of modifier calls ends up with: the coordinates and the
    call site it was registered with, and for each property the value of the last call setting it
    (`none` if there is no such call); lints are kept per lint. -/
theorem constructor_carried (comps : List Component) (c : Coords) (loc : Loc) (mods : List CtorMod) :
    exec comps (.constructor c loc mods) = comps ++
      [.constructor c (lastSome ctorLifecycle mods) (lastSome ctorCloning mods) (lastSome ctorEh mods)
        { unused := lastSome (ctorLint .unused) mods,
          errorFallback := lastSome (ctorLint .errorFallback) mods } loc] := by
  rw [exec_eq]
  rfl

/-- …and likewise the error handler of a route / fallback / middleware is the last one given. -/
theorem handler_carried (comps : List Component) (k : HKind) (c : Coords) (loc : Loc)
    (ehs : List (Coords × Loc)) (h : Coords) (hl : Loc) :
    exec comps (.handler k c loc (ehs ++ [(h, hl)])) = comps ++ [.handler k c loc (some ⟨h, hl⟩)] := by
  rw [exec_eq]
  simp only [meaning]
  rw [lastSome_snoc (fun x : Coords × Loc => some (EH.mk x.1 x.2)) ehs (h, hl) ⟨h, hl⟩ rfl]

-- Non-vacuity: a program with overriding calls at two nesting levels.
example :
    let c : Coords := ⟨"A", "app", "0.1.0", "singleton"⟩
    let prog : Bp := ⟨"new#0",
      [.constructor c "constructor#1" [.lifecycle .transient, .cloneIfNecessary, .lint .allow .unused,
          .lifecycle .singleton, .neverClone, .lint .deny .unused],
       .nest [.pfx "/a" "prefix#0", .dom "x.com" "rm_domain#1", .pfx "/b" "rm_prefix#2"] "rm_nest#0" "new#1"
         [.config c "config#0" [.defaultIfMissing, .required],
          .nest [] "nest#2" "new#2" [.routes ⟨.all, "crate", "app", "0.1.0"⟩ "routes#0"]]]⟩
    (run prog).components =
      [.constructor c (some .singleton) (some .neverClone) none { unused := some .deny } "constructor#1",
       .nested "new#1"
         [.config c none (some false) none "config#0",
          .nested "new#2" [.routesImp ⟨.all, "crate", "app", "0.1.0"⟩ "routes#0"] none none "nest#2"]
         (some ("/b", "rm_prefix#2")) (some ("x.com", "rm_domain#1")) "rm_nest#0"] := by
  intro c prog
  rw [(build_preserves prog).2]
  rfl

end Pxv.Bp

/-!
Attributes: `emitAttr` is the token list a macro writes on the item (from its `quote!`
template), `parseItem` is `pavexc_attr_parser::parse` on the item's attributes, `meaning` is what
the macro arguments mean. Token level: rustc's attribute printer and `syn`'s lexer sit in between.
-/
namespace Pxv.Attr

/-- One written attribute reaches the `for attr in attrs` loop as its kind and fields. -/
theorem parseItem_attrToks (kind : String) (fs : List Field) (hv : AllValued fs) :
    parseItem [some (attrToks kind fs)]
      = combine none [⟨false, ["diagnostic", "pavex", kind], .list (some fs)⟩] := by
  simp only [parseItem, List.filterMap_cons, List.filterMap_nil, Option.bind_some,
    parseOuter_emit kind fs hv, List.flatten_cons, List.flatten_nil, List.append_nil]

theorem combine_single {a : Attribute} {o : Outcome} (h : interpret a = some o) :
    combine none [a] = o := by
  cases o <;> simp only [combine, h, Option.isSome_none, Bool.false_eq_true, if_false]

theorem interpret_emit (s : Spec) :
    interpret ⟨false, ["diagnostic", "pavex", s.kind], .list (some s.fields)⟩
      = some (fromFields s.kind s.fields) := by
  -- the kind is known and is not `methods`: `interpret` goes on to `fromFields`
  obtain ⟨hk, hm⟩ := spec_kind_known s
  obtain ⟨keys, hkeys⟩ := Option.isSome_iff_exists.mp hk
  simp only [interpret, hkeys, if_neg hm, Bool.false_eq_true, if_false]

theorem parseItem_emit (s : Spec) : parseItem [some (emitAttr s)] = fromFields s.kind s.fields :=
  (parseItem_attrToks _ _ (spec_allValued s)).trans (combine_single (interpret_emit s))

/-- **C19 (7) attr_roundtrip.** For every legal combination of macro arguments (every component
    kind, every subset of optional arguments, every string), the attribute the macro writes is read
    back by the compiler as exactly the properties the arguments mean: id, path, method set,
    lifecycle, cloning policy, allow lists, error-handler input index, default flags. -/
theorem attr_roundtrip (s : Spec) (h : s.legal = true) :
    parseItem [some (emitAttr s)] = .some (meaning s) :=
  (parseItem_emit s).trans (fromFields_emit s h)

/-- **C19 (8) unknown_attr_rejected.** An attribute in the `diagnostic::pavex` namespace whose kind
    the compiler does not know is an error, never silently ignored. -/
theorem unknown_attr_rejected (kind : String) (fs : List Field) (hv : AllValued fs)
    (hk : knownKeys kind = none) :
    parseItem [some (attrToks kind fs)] = .unknownAttribute :=
  (parseItem_attrToks kind fs hv).trans
    (combine_single (by simp only [interpret, hk, Bool.false_eq_true, if_false]))

/-- Attributes outside the `diagnostic::pavex` namespace (`#[inline]`, `#[doc = ..]`, …) around the
    Pavex attribute change nothing. -/
theorem other_attrs_ignored (pre post : List Attribute) (a : Attribute)
    (hpre : ∀ x ∈ pre, interpret x = none) (hpost : ∀ x ∈ post, interpret x = none) :
    combine none (pre ++ a :: post) = combine none [a] := by
  have skip : ∀ (l : List Attribute) (acc : Option Props) (rest : List Attribute),
      (∀ x ∈ l, interpret x = none) → combine acc (l ++ rest) = combine acc rest := by
    intro l
    induction l with
    | nil => intro acc rest _; rfl
    | cons x xs ih =>
      intro acc rest hl
      simp only [List.cons_append, combine, hl x (by simp)]
      exact ih acc rest (fun y hy => hl y (by simp [hy]))
  rw [skip pre none _ hpre]
  simp only [combine]
  cases interpret a with
  | none => simpa [combine] using skip post none [] hpost
  | some o =>
    cases o with
    | some p => simpa [combine] using skip post (some p) [] hpost
    | none => rfl
    | unknownAttribute => rfl
    | invalidParams => rfl
    | multiple => rfl
    | panic => rfl

/-- Two Pavex attributes on one item are rejected. -/
theorem two_pavex_attrs_rejected (s1 s2 : Spec) (h1 : s1.legal = true) (h2 : s2.legal = true) :
    parseItem [some (emitAttr s1), some (emitAttr s2)] = .multiple := by
  simp only [parseItem, emitAttr, List.filterMap_cons, List.filterMap_nil, Option.bind_some,
    parseOuter_emit _ _ (spec_allValued _), List.flatten_cons, List.flatten_nil, List.append_nil,
    List.cons_append, List.nil_append, combine, interpret_emit, fromFields_emit _ h1,
    fromFields_emit _ h2, Option.isSome_none, Option.isSome_some, Bool.false_eq_true, if_false,
    if_true]

/-- The one combination `#[route]` used to let through although the documentation forbids it
    (`method` missing without `allow(any_method)`): the compiler does not get properties, it
    panics. (The macro now rejects it: repo commit "fix: reject #[route] without `method`…".) -/
theorem route_without_method_panics (id path : String) (ns : Bool) (aef : Option Bool) :
    parseItem [some (emitAttr (.route id path none ns false aef))] = .panic :=
  (parseItem_emit _).trans (fromFields_spec _)

-- Non-vacuity: legal specs of several kinds, with their attributes and meanings.
example : parseItem [some (emitAttr (.constructor "A" .requestScoped (some .cloneIfNecessary) (some true) (some false)))]
    = .some (.constructor "A" .requestScoped (some .cloneIfNecessary) (some true) (some false)) :=
  attr_roundtrip _ rfl
example : parseItem [some (emitAttr (.route "R" "/users/{id}" (some (.multiple ["POST", "GET", "POST"])) false false none))]
    = .some (.route "R" (.some ["GET", "POST"]) "/users/{id}" none) :=
  (attr_roundtrip _ rfl).trans (by decide +kernel)
example : parseItem [some (emitAttr (.route "R" "/hook" none true true none))] = .some (.route "R" .any "/hook" none) :=
  attr_roundtrip _ rfl
example : emitAttr (.errorHandler "H" 1 (some true))
    = [.punct '#', .punct '[', .ident "diagnostic", .punct ':', .punct ':', .ident "pavex", .punct ':', .punct ':',
       .ident "error_handler", .punct '(', .ident "id", .punct '=', .str "H", .punct ',',
       .ident "error_ref_input_index", .punct '=', .nat 1, .punct ',', .ident "default", .punct '=', .bool true,
       .punct ',', .punct ')', .punct ']'] :=
  rfl
example : parseItem [some (attrToks "nope" [⟨"id", some (.str "A")⟩])] = .unknownAttribute :=
  unknown_attr_rejected _ _ ((allValued_cons _ _).mpr ⟨rfl, allValued_nil⟩) (by decide +kernel)

end Pxv.Attr
