import Pxv.Model.Router
import Pxv.Lemmas.Matchit
import Pxv.Lemmas.Router
import Pxv.Lemmas.RouterBp
/-!
# C07 — requests are routed to exactly the handler the blueprint designates

Model: `Pxv/Model/Router.lean` (blueprint walk, `Router::new`, generated dispatch, runtime fallback)
on `Pxv/Model/Matchit.lean` (matchit 0.9.2) and `Pxv/Model/Domain.lean`.

The server starts: `router_new_total`. Dispatch: `dispatch_spec_partial` is the property up to the
side condition `NoNestedSuffix` of the matchit model, which cannot be dropped
(`dispatch_spec_statement_false`, `at_complete_statement_false`: the crate itself misses a matching
route); `route_designated` / `dispatch_designated` name the handler that runs. "The unique handler"
holds per method (`method_guard_unique`), per path only where routes do not overlap
(`dispatch_unique_of_no_overlap`, `dispatch_unique_statement_false`: a known finding); otherwise
the most specific pattern wins, and that pattern is unique (`most_specific_unique`). The path
matches, no method does: `allow_exact`, `default_fallback_405` / `_404`. Nothing matches:
`fallback_innermost`, `prefix_fallback`, `root_fallback_innermost`, `no_domain_fallback`.
`at_spec` is the matchit level all of this rests on.
-/
namespace Pxv.Router
open Pxv.Matchit

/-- Every path router of an accepted table was built by `PathRouter::new` from components of the
    blueprint. -/
theorem compile_routers {ops : List Op} {t : Table} (h : compile ops = .ok t) :
    ∀ r ∈ t.pathRouters, ∃ cs, (∀ c ∈ cs, c ∈ (processBlueprint ops).comps) ∧
      PathRouter.new cs (fallbacksOf (processBlueprint ops).comps) = .ok r := by
  cases t with
  | agnostic r0 =>
    intro r hr
    obtain rfl : r = r0 := by simpa [Table.pathRouters] using hr
    exact ⟨_, fun c hc => hc, compile_agnostic h⟩
  | domains ds f =>
    intro r hr
    simp only [Table.pathRouters, List.mem_map] at hr
    obtain ⟨d, hd, rfl⟩ := hr
    obtain ⟨⟨gs, hgs⟩, _, _⟩ := compile_domains h
    exact buildDomains_ok hgs d hd

/-- For an accepted blueprint every `insert(..).unwrap()` of the generated `router()` /
    `domain_N_router()` / `domain_router()` functions succeeds. -/
theorem router_new_total {ops : List Op} {t : Table} (h : compile ops = .ok t) :
    (∀ r ∈ t.pathRouters, ∃ rt, runtimeInserts r.leaves 0 {} = .ok rt) ∧
    (∀ ds f, t = .domains ds f → insertAllOk (ds.map (·.pattern)) 0 {} = true) := by
  refine ⟨?_, ?_⟩
  · intro r hr
    obtain ⟨cs, _, hnew⟩ := compile_routers h r hr
    obtain ⟨_, _, b⟩ := PathRouter.new_leaves hnew
    exact b.runtime
  · intro ds f e
    subst e
    exact (compile_domains h).2.1

/-- Non-vacuous: a blueprint with a prefixed nested blueprint, a custom fallback and a catch-all is
    accepted … -/
def okOps : List Op :=
  [.route 0 (.some ["GET"]) "/a/{x}".toList, .route 1 (.some ["GET", "PURGE"]) "/a/b".toList,
   .nest (some "/api".toList) none [.route 2 .any "/{*rest}".toList, .fallback 0]]

/-- … with this table (entries in key order; `/api{*catch_all}` leads to the fallback of the nested
    blueprint) … -/
def okTable : Table := .agnostic ⟨[
  ⟨"/a/b".toList, [(1, 1, ["GET", "PURGE"])], .fallback none⟩,
  ⟨"/a/{x}".toList, [(0, 0, ["GET"])], .fallback none⟩,
  ⟨"/api/{*rest}".toList, [], .handler 2⟩,
  ⟨"/api{*catch_all}".toList, [], .fallback (some 0)⟩], none⟩

theorem okOps_compile : compile okOps = .ok okTable := by decide +kernel

set_option maxRecDepth 100000 in
example : (compile okOps).toOption.isSome = true := by rw [okOps_compile]; rfl

/-- … and the blueprint whose generated server used to panic at start-up (`/{x}b` is inserted
    before `/b/b{y}a` at compile time, after it at run time) is now refused. -/
def orderOps : List Op := [.route 0 (.some ["GET"]) "/{x}b".toList, .route 1 (.some ["GET"]) "/b/b{y}a".toList]

set_option maxRecDepth 100000 in
example : compile orderOps = .error .runtimeOrder := by decide +kernel

/-- The property with no side condition on the table. It fails
    (`dispatch_spec_statement_false`). -/
def dispatch_spec_statement : Prop :=
  ∀ (ops : List Op) (t : Table), compile ops = .ok t → ∀ req, TableRouted t req (t.dispatch req)

/-- The statement under the side condition of the matchit model: for an accepted table whose
    routers have no nested parameter suffixes at one position, every request is answered by the
    method arms of a most specific entry whose domain guard and path pattern match it — or, if no
    domain / no path matches, by the corresponding root fallback with no allowed methods. -/
theorem dispatch_spec_partial {ops : List Op} {t : Table} (_h : compile ops = .ok t) (hN : t.NoNestedSuffix)
    (req : Request) : TableRouted t req (t.dispatch req) :=
  tableDispatch_spec t hN req

set_option maxRecDepth 100000 in
/-- Non-vacuous: `okOps` (parameters, a catch-all, a nested prefix with its own fallback) is accepted
    and satisfies the side condition; so does a table with domain guards. -/
example : ∃ t, compile okOps = .ok t ∧ t.NoNestedSuffix :=
  ⟨okTable, okOps_compile, Table.noNestedSuffix_of_check (by decide +kernel)⟩

def domOps : List Op :=
  [.nest none (some "a.com".toList) [.route 0 (.some ["GET"]) "/r".toList, .fallback 0],
   .nest (some "/v1".toList) (some "{sub}.a.com".toList) [.route 1 (.some ["GET", "LOCK"]) "/r/{id}.json".toList]]

/-- An accepted table with the side condition and further decidable facts `D`, from one evaluation
    of `compile` (each separate `decide` would run `compile` again). -/
theorem exists_table_of_check {ops : List Op} {D : Table → Prop}
    (h : ∃ t ∈ (compile ops).toOption, t.noNestedSuffixB = true ∧ D t) :
    ∃ t, compile ops = .ok t ∧ t.NoNestedSuffix ∧ D t :=
  let ⟨t, ht, hN, hD⟩ := h
  ⟨t, toOption_eq_some.mp ht, Table.noNestedSuffix_of_check hN, hD⟩

set_option maxRecDepth 100000 in
example : ∃ t, compile domOps = .ok t ∧ t.NoNestedSuffix ∧
    t.dispatch ⟨"LOCK", "/v1/r/7.json".toList, some "w.a.com:8080".toList⟩ = .handler 1 ∧
    t.dispatch ⟨"GET", "/nope".toList, some "a.com".toList⟩ = .fallback (some 0) [] ∧
    t.dispatch ⟨"GET", "/r".toList, some "b.org".toList⟩ = .fallback none [] :=
  exists_table_of_check (by decide +kernel)

/-- The witness of the missing piece (matchit commits to the longest fitting suffix): `/{x}ab/c` and
    `/{x}b/d` are accepted, `GET /zab/d` matches the second route and gets the default fallback. -/
def commitOps : List Op := [.route 0 (.some ["GET"]) "/{x}ab/c".toList, .route 1 (.some ["GET"]) "/{x}b/d".toList]

def commitReq : Request := ⟨"GET", "/zab/d".toList, none⟩

theorem dispatch_spec_statement_false : ¬ dispatch_spec_statement := by
  intro hS
  -- the accepted table has one path router: it answers with the root fallback, an entry matches
  -- the path, and no entry answers `GET` with that fallback
  have key : ∃ t ∈ (compile commitOps).toOption, t.dispatch commitReq = .fallback none [] ∧
      ∃ r ∈ t.pathRouters, t = .agnostic r ∧
        (∃ l ∈ r.leaves, matchTok l.toks commitReq.path = true) ∧
        ∀ l ∈ r.leaves, l.dispatch commitReq.method ≠ .fallback none [] := by decide +kernel
  obtain ⟨t, ht, hd, r, -, rfl, ⟨l, hl, hm⟩, hne⟩ := key
  have hR := hS commitOps _ (toOption_eq_some.mp ht) commitReq
  rw [hd] at hR
  obtain ⟨hRouted⟩ := hR
  rcases hRouted.inv with ⟨l', hl', he⟩ | ⟨hnone, _⟩
  · exact hne l' hl'.1 he.symm
  · exact hnone l hl hm

/-- In an accepted path router, a registered handler `x` whose method guard accepts `m` and whose
    (prefixed) path pattern matches the request path and is strictly more specific than every other
    entry that matches it is the handler that runs. -/
theorem dispatch_designated {comps : List Comp} {fbs : List Fb} {r : PathRouter}
    (h : PathRouter.new comps fbs = .ok r) (hN : NoNestedSuffix r.rset)
    {x : Handler} (hx : x ∈ handlersOf comps) {m : String} (hadm : x.guard.admits m = true)
    {path : List Char}
    (hbest : ∀ l ∈ r.leaves, l.Matches path → l.path ≠ x.path →
      specGE l.toks (toks x.path) = false) :
    matchTok (toks x.path) path = true → r.dispatch m path = .handler x.h := by
  intro hmatch
  obtain ⟨lx, hlx, hpx, _⟩ := PathRouter.new_reachable h hx hadm
  have hlxm : lx.Matches path := by simpa [Leaf.Matches, Leaf.toks, hpx] using hmatch
  rcases pathDispatch_spec r hN m path with ⟨l, ⟨hl, hlm, hmax⟩, he⟩ | ⟨hnone, _⟩
  · rw [he]
    by_cases hp : l.path = x.path
    · exact PathRouter.new_designated h hx hadm hl hp
    · -- another entry `l` wins: it is at least as specific as the entry of `x`, against `hbest`
      have h1 : specGE (toks l.path) (toks x.path) = false := hbest l hl hlm hp
      have h2 : specGE (toks l.path) (toks lx.path) = true := hmax lx hlx hlxm
      rw [hpx, h1] at h2
      cases h2
  · exact absurd hlxm (hnone lx hlx)

/-- From the blueprint to the handler that runs. If the blueprint registers handler `hnd` with
    method guard `g` for path `full` (the route's path behind the prefixes of all enclosing nested
    blueprints: `Reg`), the blueprint is accepted (no domain guards), `g` accepts the request
    method, `full` matches the request path and is strictly more specific than every other table
    entry that matches it, then the generated server runs `hnd`. -/
theorem route_designated {ops : List Op} {r : PathRouter} (h : compile ops = .ok (.agnostic r))
    (hN : NoNestedSuffix r.rset) {hnd : Nat} {g : MGuard} {full : List Char} {d : Option (List Char)}
    (hreg : Reg ops none none hnd g full d) {m : String} (hadm : g.admits m = true) {path : List Char}
    (hmatch : matchTok (toks full) path = true)
    (hbest : ∀ l ∈ r.leaves, l.Matches path → l.path ≠ full → specGE l.toks (toks full) = false) :
    r.dispatch m path = .handler hnd := by
  obtain ⟨x, hx, rfl, rfl, rfl, _⟩ := processBlueprint_registers (compile_ok h).1 hreg
  exact dispatch_designated (compile_agnostic h) hN hx hadm hbest hmatch

set_option maxRecDepth 100000 in
/-- Non-vacuous: in `okOps`, `GET /api/x/y` reaches handler 2, registered as `/{*rest}` inside the
    blueprint nested at `/api`. -/
example : ((compile okOps).toOption.map (fun t => t.dispatch ⟨"GET", "/api/x/y".toList, none⟩)) = some (.handler 2) := by
  rw [okOps_compile]; decide +kernel

/-- If the entries that match the path are all the same entry (no overlap at this path), that
    entry's method arms answer the request. -/
theorem dispatch_unique_of_no_overlap (r : PathRouter) (hN : NoNestedSuffix r.rset) (m : String) (path : List Char)
    (hNo : ∀ l₁ ∈ r.leaves, ∀ l₂ ∈ r.leaves, l₁.Matches path → l₂.Matches path → l₁ = l₂)
    {l : Leaf} (hl : l ∈ r.leaves) (hm : l.Matches path) : r.dispatch m path = l.dispatch m := by
  rcases pathDispatch_spec r hN m path with ⟨l', ⟨hl', hlm', _⟩, he⟩ | ⟨hnone, _⟩
  · rw [he, hNo l hl l' hl' hm hlm']
  · exact absurd hm (hnone l hl)

/-- Two most specific matching entries carry the same path pattern (up to parameter names): "the"
    most specific route is well defined. -/
theorem most_specific_unique {r : PathRouter} {l₁ l₂ : Leaf} {path : List Char}
    (h1 : MostSpecific r l₁ path) (h2 : MostSpecific r l₂ path) : l₁.toks = l₂.toks :=
  let ⟨hl₁, hm₁, hmax₁⟩ := h1
  let ⟨hl₂, hm₂, hmax₂⟩ := h2
  specGE_antisymm _ _ path hm₁ hm₂ (hmax₁ l₂ hl₂ hm₂) (hmax₂ l₁ hl₁ hm₁)
    (toks_starLast _) (toks_starLast _)

/-- The literal reading of "the unique handler whose guards match": in an accepted table at most one
    entry matches a path. -/
def dispatch_unique_statement : Prop :=
  ∀ (ops : List Op) (t : Table), compile ops = .ok t → ∀ r ∈ t.pathRouters, ∀ path,
    ∀ l₁ ∈ r.leaves, ∀ l₂ ∈ r.leaves, l₁.Matches path → l₂.Matches path → l₁ = l₂

def overlapOps : List Op := [.route 0 (.some ["GET"]) "/a/{x}".toList, .route 1 (.some ["GET"]) "/a/b".toList]

/-- It fails: `/a/{x}` and `/a/b` are accepted together and both match `/a/b` (the request goes to
    `/a/b`, the more specific one: `dispatch_spec_partial`). Known finding C07-specificity-overlap. -/
theorem dispatch_unique_statement_false : ¬ dispatch_unique_statement := by
  intro hS
  have key : ∃ t ∈ (compile overlapOps).toOption, ∃ r ∈ t.pathRouters,
      ∃ l₁ ∈ r.leaves, ∃ l₂ ∈ r.leaves,
        matchTok l₁.toks "/a/b".toList = true ∧ matchTok l₂.toks "/a/b".toList = true ∧
        l₁ ≠ l₂ := by
    decide +kernel
  obtain ⟨t, ht, r, hr, l₁, h1, l₂, h2, m1, m2, hne⟩ := key
  exact hne (hS overlapOps t (toOption_eq_some.mp ht) r hr _ l₁ h1 l₂ h2 m1 m2)

/-- In an accepted path router two different handlers registered for the same path never accept
    the same method — well-known, custom, or covered only by an `ANY` guard. -/
theorem method_guard_unique {comps : List Comp} {fbs : List Fb} {r : PathRouter}
    (h : PathRouter.new comps fbs = .ok r) {a b : Handler} (ha : a ∈ handlersOf comps) (hb : b ∈ handlersOf comps)
    (hp : b.path = a.path) {m : String} (hma : a.guard.admits m = true) (hmb : b.guard.admits m = true) : a = b := by
  obtain ⟨_, _, b⟩ := PathRouter.new_leaves h
  exact methodConflict_false b.noConflict ha hb hp hma hmb

set_option maxRecDepth 100000 in
/-- Two handlers for `PURGE /p` (a custom method) are refused, … -/
example : compile [.route 0 (.some ["GET", "PURGE"]) "/p".toList, .route 1 (.some ["POST", "PURGE"]) "/p".toList]
    = .error .methodConflict := by decide +kernel

set_option maxRecDepth 100000 in
/-- … and so is a custom-method handler next to an `ANY` route that includes extension methods. -/
example : compile [.route 0 (.some ["PURGE"]) "/p".toList, .route 1 .any "/p".toList]
    = .error .methodConflict := by decide +kernel

/-- In an accepted path router, if an entry has no arm for the method and falls back to a fallback
    handler `f`, then `f` runs and the methods it sees are exactly the methods of the guards
    registered for that entry's path. -/
theorem allow_exact {comps : List Comp} {fbs : List Fb} {r : PathRouter}
    (h : PathRouter.new comps fbs = .ok r) {l : Leaf} (hl : l ∈ r.leaves) {m : String} {f : Option Nat}
    (hno : ∀ a ∈ l.arms, a.2.2.contains m = false) (hf : l.fb = .fallback f) :
    l.dispatch m = .fallback f l.allowed ∧
    ∀ m', m' ∈ l.allowed ↔ ∃ x ∈ handlersOf comps, x.path = l.path ∧ ∃ ms, x.guard = .some ms ∧ m' ∈ ms := by
  refine ⟨?_, PathRouter.new_allowed h hl hf⟩
  rw [leaf_dispatch_no_arm hno, hf]

set_option maxRecDepth 100000 in
/-- Non-vacuous: in `okOps`, `DELETE /a/b` has a matching path and no matching method: the default
    fallback sees `GET` and `PURGE` and answers `405` with `Allow: GET,PURGE`; `DELETE /a/c` only
    matches `/a/{x}` (registered for `GET`). -/
example : ((compile okOps).toOption.map (fun t =>
      (t.dispatch ⟨"DELETE", "/a/b".toList, none⟩, t.dispatch ⟨"DELETE", "/a/c".toList, none⟩))) =
      some (.fallback none ["GET", "PURGE"], .fallback none ["GET"]) ∧
    defaultFallback ["GET", "PURGE"] = (405, some "GET,PURGE") := by
  rw [okOps_compile]; decide +kernel

/-- The fallback runs exactly when no arm accepts the method. -/
theorem fallback_iff_no_method {l : Leaf} {m : String} {f : Option Nat} {allowed : List String} :
    l.dispatch m = .fallback f allowed ↔
      (∀ a ∈ l.arms, a.2.2.contains m = false) ∧ l.fb = .fallback f ∧ allowed = l.allowed :=
  leaf_dispatch_fallback_iff

/-- With at least one allowed method the framework's fallback answers `405` and `Allow:` lists
    exactly the methods it was given. -/
theorem default_fallback_405 {ms : List String} (h : ms ≠ []) :
    defaultFallback ms = (405, some (",".intercalate ms)) := by
  unfold defaultFallback allowHeader
  cases ms with
  | nil => exact absurd rfl h
  | cons a as => simp

/-- Without allowed methods it answers `404` and sets no `Allow`. -/
theorem default_fallback_404 : defaultFallback [] = (404, none) := by
  simp [defaultFallback, allowHeader]

/-- Path level: if no entry matches the path, the root fallback of the path router runs, with no
    allowed methods (default: 404). -/
theorem fallback_innermost (r : PathRouter) (hN : NoNestedSuffix r.rset) (m : String) (path : List Char)
    (hnone : ∀ l ∈ r.leaves, ¬ l.Matches path) : r.dispatch m path = .fallback r.rootFb [] := by
  rcases pathDispatch_spec r hN m path with ⟨l, ⟨hl, hlm, _⟩, _⟩ | ⟨_, he⟩
  · exact absurd hlm (hnone l hl)
  · exact he

/-- The root fallback of an accepted path router is the fallback of the innermost blueprint that
    has one and encloses all the routes and fallbacks of that router. -/
theorem root_fallback_innermost {comps : List Comp} {fbs : List Fb} {r : PathRouter}
    (h : PathRouter.new comps fbs = .ok r) :
    ∃ fb ∈ fbs, r.rootFb = fb.f ∧ fb.bp.isPrefixOf (commonAncestor (comps.map Comp.scope)) = true ∧
      ∀ fb' ∈ fbs, fb'.bp.isPrefixOf (commonAncestor (comps.map Comp.scope)) = true → fb'.bp.length ≤ fb.bp.length := by
  obtain ⟨_, _, b⟩ := PathRouter.new_leaves h
  obtain ⟨rootFb, hroot, hf⟩ := b.root
  obtain ⟨hm, hp, hmax⟩ := scopeFallback_spec hroot
  exact ⟨rootFb, hm, hf, hp, hmax⟩

/-- An entry of an accepted path router that is not the path of a registered handler is the
    catch-all `<prefix>{*catch_all}` of a nested blueprint with that prefix and its own fallback `f`:
    when it is the most specific match, `f` runs and sees no allowed methods. -/
theorem prefix_fallback {comps : List Comp} {fbs : List Fb} {r : PathRouter}
    (h : PathRouter.new comps fbs = .ok r) {l : Leaf} (hl : l ∈ r.leaves)
    (hnot : ¬ ∃ x ∈ handlersOf comps, x.path = l.path) (m : String) :
    ∃ fb ∈ fallbacksOf comps, ∃ pfx, fb.pfx = some pfx ∧ fallbackPath pfx = some l.path ∧
      l.dispatch m = .fallback fb.f [] := by
  rcases (PathRouter.new_entry h hl).2 with hx | ⟨harms, fb, hfb, pfx, h1, h2, h3⟩
  · exact absurd hx hnot
  · refine ⟨fb, hfb, pfx, h1, h2, ?_⟩
    have hno : ∀ a ∈ l.arms, a.2.2.contains m = false := by
      rw [harms]
      exact fun a ha => nomatch ha
    rw [leaf_dispatch_no_arm hno, h3]
    simp [Leaf.allowed, harms]

set_option maxRecDepth 100000 in
/-- Non-vacuous: in `okOps`, `/apix` is only matched by `/api{*catch_all}`, the entry of the nested
    blueprint's fallback 0; `/zzz` is matched by nothing: default fallback, `404`. -/
example : ((compile okOps).toOption.map (fun t =>
      (t.dispatch ⟨"GET", "/apix".toList, none⟩, t.dispatch ⟨"GET", "/zzz".toList, none⟩))) =
      some (.fallback (some 0) [], .fallback none []) ∧ defaultFallback [] = (404, none) := by
  rw [okOps_compile]; decide +kernel

/-- With domain guards: no guard fits the `Host` (or there is no usable `Host`) → the top-level
    fallback, with no allowed methods. -/
theorem no_domain_fallback (ds : List DomainEntry) (f : Option Nat) (hN : NoNestedSuffix (domRset ds)) (req : Request)
    (hnone : ∀ h, req.host.bind hostOf = some h → ∀ d ∈ ds, matchTok d.toks (Pxv.Domain.normHost h) = false) :
    (Table.domains ds f).dispatch req = .fallback f [] := by
  unfold Table.dispatch
  cases hh : req.host.bind hostOf with
  | none => rfl
  | some h =>
    simp only
    rcases atIdx_cases DomainEntry.pattern ds hN (Pxv.Domain.normHost h) with
      ⟨i, d, _, hd, hm, _⟩ | ⟨hi, _⟩
    · exact Bool.noConfusion (hm.symm.trans (hnone h hh d (List.mem_of_getElem? hd)))
    · rw [hi]

/-- `Router::at` over an accepted route set without nested suffixes returns a matching route that is
    at least as specific as every matching route, and finds one whenever one matches. -/
theorem at_spec (S : RSet) (p : List Char) (hN : NoNestedSuffix S) :
    (∀ i, atGo S p = some i → ∃ t, (i, t) ∈ S ∧ matchTok t p = true ∧
        ∀ j t', (j, t') ∈ S → matchTok t' p = true → specGE t t' = true) ∧
    (atGo S p = none → ∀ j t', (j, t') ∈ S → matchTok t' p = false) :=
  atGo_spec S p hN

/-- Completeness of `at` at full strength … -/
def at_complete_statement : Prop :=
  ∀ (S : RSet) (p : List Char) (i : Nat) (t : List Tok), (i, t) ∈ S → matchTok t p = true → (atGo S p).isSome = true

def commitSet : RSet := [(0, toks "/{x}ab/c".toList), (1, toks "/{x}b/d".toList)]

/-- … fails on the faithful model, as it does in the crate (known finding C07-matchit-suffix-commit). -/
theorem at_complete_statement_false : ¬ at_complete_statement := by
  intro hS
  have key : ∃ e ∈ commitSet, matchTok e.2 commitReq.path = true ∧
      atGo commitSet commitReq.path = none := by
    decide +kernel
  obtain ⟨⟨i, t⟩, he, hm, hn⟩ := key
  have := hS commitSet _ i t he hm
  rw [hn] at this
  cases this

/-- The hypothesis of the partial theorems is satisfiable on a table with parameters, a static
    prefix form, suffix forms that are not nested, and a catch-all. -/
example : NoNestedSuffix [(0, toks "/a/{x}".toList), (1, toks "/a/u{x}/c".toList), (2, toks "/f/{n}.json".toList),
    (3, toks "/f/{n}.png".toList), (4, toks "/s/{*rest}".toList)] :=
  noNestedSuffix_of_check (by decide +kernel)

end Pxv.Router
