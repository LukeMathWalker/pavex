import Pxv.Lemmas.TyTemplate
import Pxv.Lemmas.TyEquiv
import Pxv.Lemmas.TyLifetimes
import Pxv.Lemmas.TyParse
import Pxv.Lemmas.TyRenderLk
/-!
C17 — the type algebra used for dependency matching obeys its laws.
Every statement is for all types, of any nesting depth.
-/
namespace Pxv.Ty

/-- **C17 (1) template/bind**: if `T` is reported to be a template for a concrete type `C` with
    bindings `b`, then substituting `b` into `T` yields `C` up to lifetimes (`eraseLt` forgets only
    lifetimes, fn-pointer parameter names and rustdoc ids). -/
theorem template_bind (T C : Ty) (b : List (String × Ty)) (hC : isTemplate C = false)
    (h : isTemplateFor T C = some b) : eraseLt (bind b T) = eraseLt C :=
  (tmplGo_sound T C [] b hC h).2 b (BLe.refl b)

/-- **C17 (1')**: in particular reference mutability is kept: where the template has `&T'` / `&mut T'`
    the concrete type has a reference of the same mutability. -/
theorem refMut_preserved (m m' : Bool) (l l' : Lt) (T' C' : Ty) (b : List (String × Ty))
    (hC : isTemplate C' = false) (h : isTemplateFor (.ref m l T') (.ref m' l' C') = some b) :
    m = m' ∧ eraseLt (bind b T') = eraseLt C' := by
  have := template_bind (.ref m l T') (.ref m' l' C') b (by simpa [isTemplate] using hC) h
  simpa [bind, eraseLt] using this

-- Non-vacuity: `k::Holder<&'a mut T, U>` is a template for `k::Holder<&mut u8, (bool,)>`.
example : isTemplateFor
    (.path false "p" (some 1) ["k", "Holder"] (.ty (.ref true (.named "a") (.generic "T")) (.ty (.generic "U") .nil)))
    (.path false "p" none ["k", "Holder"] (.ty (.ref true .elided (.scalar .u8)) (.ty (.tuple (.cons (.scalar .bool) .nil)) .nil)))
    = some [("U", .tuple (.cons (.scalar .bool) .nil)), ("T", .scalar .u8)] := by decide +kernel
-- `&T` is no longer a template for `&mut u8` (it was before the `fix:` commit).
example : isTemplateFor (.ref false .elided (.generic "T")) (.ref true .elided (.scalar .u8)) = none := by decide +kernel
-- The concreteness hypothesis is needed: against a type that itself has generic parameters the early
-- `concrete == self` exit skips a binding (`(X, X)` vs `(X, u8)` answers `X ↦ u8`).
example : ∃ T C b, isTemplateFor T C = some b ∧ eraseLt (bind b T) ≠ eraseLt C :=
  ⟨.tuple (.cons (.generic "X") (.cons (.generic "X") .nil)),
   .tuple (.cons (.generic "X") (.cons (.scalar .u8) .nil)), [("X", .scalar .u8)], by decide +kernel, by decide +kernel⟩

/-- `is_equivalent_to` answers exactly when the two canonical forms agree up to lifetimes (`noLt`
    forgets those and nothing else), and its answer pairs the unassigned generic parameters of the two
    types in order of first occurrence. The laws below are read off this. -/
theorem isEquivalentTo_eq_some {a b : Ty} {m : List (String × String)} :
    isEquivalentTo a b = some m ↔
      noLt (canonicalize a) = noLt (canonicalize b) ∧ (unassigned a []).zip (unassigned b []) = m := by
  unfold isEquivalentTo canonicalize
  cases e : equivGo a b ([], []) with
  | none =>
    -- had the canonical forms agreed, `equivGo_iff` would make the comparison succeed
    refine ⟨nofun, fun h => ?_⟩
    have hs := (equivGo_iff a b 0 0 [] [] _).2 ⟨h.1, rfl⟩
    rw [e] at hs
    cases hs
  | some s =>
    obtain ⟨h, rfl⟩ := (equivGo_iff a b 0 0 [] [] s).1 e
    simp only [canonGo_seen, Option.some.injEq, h, true_and]

theorem equiv_iff (a b : Ty) :
    (isEquivalentTo a b).isSome = true ↔ noLt (canonicalize a) = noLt (canonicalize b) := by
  simp only [Option.isSome_iff_exists, isEquivalentTo_eq_some, exists_and_left, exists_eq',
    and_true]

/-- **C17 (2a)** reflexive. -/
theorem equiv_refl (a : Ty) : (isEquivalentTo a a).isSome = true := (equiv_iff a a).2 rfl

/-- **C17 (2b)** symmetric. -/
theorem equiv_symm (a b : Ty) (h : (isEquivalentTo a b).isSome = true) :
    (isEquivalentTo b a).isSome = true := (equiv_iff b a).2 ((equiv_iff a b).1 h).symm

/-- **C17 (2c)** transitive. -/
theorem equiv_trans (a b c : Ty) (h1 : (isEquivalentTo a b).isSome = true)
    (h2 : (isEquivalentTo b c).isSome = true) : (isEquivalentTo a c).isSome = true :=
  (equiv_iff a c).2 (((equiv_iff a b).1 h1).trans ((equiv_iff b c).1 h2))

/-- **C17 (2d)** equivalence never relates types that differ in anything but lifetimes and the
    names of generic parameters (`skeleton` forgets exactly those, and fn-pointer parameter names). -/
theorem equiv_only_names (a b : Ty) (h : (isEquivalentTo a b).isSome = true) : skeleton a = skeleton b := by
  have := congrArg skeleton ((equiv_iff a b).1 h)
  rwa [canonicalize, canonicalize, skeleton_canon, skeleton_canon] at this

/-- In particular `&T` and `&mut T` are never equivalent. -/
theorem equiv_ref_mutability (m m' : Bool) (l l' : Lt) (a b : Ty)
    (h : (isEquivalentTo (.ref m l a) (.ref m' l' b)).isSome = true) : m = m' := by
  have := equiv_only_names _ _ h
  simp only [skeleton, Ty.ref.injEq] at this
  exact this.1

/-- The renaming returned by `is_equivalent_to` pairs the unassigned generic parameters of the two
    types in order of first occurrence. -/
theorem equiv_renaming (a b : Ty) (m : List (String × String)) (h : isEquivalentTo a b = some m) :
    m = (unassigned a []).zip (unassigned b []) := (isEquivalentTo_eq_some.1 h).2.symm

/-- … and the renaming of the symmetric query is the inverse one. -/
theorem equiv_symm_renaming (a b : Ty) (m : List (String × String)) (h : isEquivalentTo a b = some m) :
    isEquivalentTo b a = some (m.map Prod.swap) := by
  obtain ⟨e, rfl⟩ := isEquivalentTo_eq_some.1 h
  exact isEquivalentTo_eq_some.2 ⟨e.symm, (zip_map_swap _ _).symm⟩

-- Non-vacuity: `(&'a T, U, T)` ≡ `(&P, Q, P)` with T ↦ P, U ↦ Q; `(T, U)` ≢ `(P, P)`; `&T` ≢ `&mut T`.
example : isEquivalentTo
    (.tuple (.cons (.ref false (.named "a") (.generic "T")) (.cons (.generic "U") (.cons (.generic "T") .nil))))
    (.tuple (.cons (.ref false .elided (.generic "P")) (.cons (.generic "Q") (.cons (.generic "P") .nil))))
    = some [("T", "P"), ("U", "Q")] := by decide +kernel
example : isEquivalentTo (.tuple (.cons (.generic "T") (.cons (.generic "U") .nil)))
    (.tuple (.cons (.generic "P") (.cons (.generic "P") .nil))) = none := by decide +kernel
example : isEquivalentTo (.ref false .elided (.generic "T")) (.ref true .elided (.generic "T")) = none := by
  decide +kernel

/-- **C17 (3a)** canonicalisation is idempotent. -/
theorem canon_idem (a : Ty) : canonicalize (canonicalize a) = canonicalize a := by
  have h := canonGo_idem a ⟨0, []⟩
  -- the second walk, too, starts with no generic name seen
  have e : cnames 0 = [] := rfl
  simp only [List.length_nil, e] at h
  unfold canonicalize
  rw [h]

/-- **C17 (3b)** two types with equal canonical forms are equivalent. -/
theorem canon_eq_equiv (a b : Ty) (h : canonicalize a = canonicalize b) :
    (isEquivalentTo a b).isSome = true := (equiv_iff a b).2 (congrArg noLt h)

/-- Every type is equivalent to its canonical form. -/
theorem equiv_canon (a : Ty) : (isEquivalentTo a (canonicalize a)).isSome = true :=
  equiv_symm _ _ (canon_eq_equiv _ _ (canon_idem a))

/-- **C17 (3c)** canonical forms are complete: two types have the same canonical form *exactly* when
    they are equivalent and agree on which lifetimes are `'static` (`ltSkeleton` keeps that bit and
    forgets the other lifetimes and all generic names). This is what lookups keyed by `CanonicalType`
    (constructors, error handlers, codegen bindings) identify. -/
theorem canon_eq_iff (a b : Ty) :
    canonicalize a = canonicalize b ↔
      ((isEquivalentTo a b).isSome = true ∧ ltSkeleton a = ltSkeleton b) := by
  constructor
  · intro h
    refine ⟨canon_eq_equiv a b h, ?_⟩
    have h1 := canonGo_ltSkeleton a ⟨0, []⟩
    have h2 := canonGo_ltSkeleton b ⟨0, []⟩
    unfold canonicalize at h
    rw [← h1, ← h2, h]
  · rintro ⟨he, hk⟩
    unfold isEquivalentTo at he
    cases e : equivGo a b ([], []) with
    | none => simp [e] at he
    | some s' =>
      obtain ⟨c, k, e1, e2⟩ := canonGo_complete a b ([], []) s' 0 e hk
      unfold canonicalize
      simp only [] at e1 e2
      rw [e1, e2]

-- Non-vacuity: `k::Tri<&'x T, &mut U, T, 'q>` becomes `k::Tri<&'a A, &'b mut B, A, 'c>`; `(&'x T, U)` and
-- `(&'_ Q, R)` have the same canonical form.
example : canonicalize
    (.path false "p" none ["k", "Tri"] (.ty (.ref false (.named "x") (.generic "T"))
      (.ty (.ref true .elided (.generic "U")) (.ty (.generic "T") (.lt (.named "q") .nil)))))
    = .path false "p" none ["k", "Tri"] (.ty (.ref false (.named "a") (.generic "A"))
      (.ty (.ref true (.named "b") (.generic "B")) (.ty (.generic "A") (.lt (.named "c") .nil)))) := by
  decide +kernel
example : canonicalize (.tuple (.cons (.ref false (.named "x") (.generic "T")) (.cons (.generic "U") .nil)))
    = canonicalize (.tuple (.cons (.ref false .inferred (.generic "Q")) (.cons (.generic "R") .nil))) := by
  decide +kernel

/-! Lifetime names never matter for lookups: `pavexc` rewrites lifetimes (`set_implicit_lifetimes`,
`rename_lifetime_parameters`) around lookups that are keyed by canonical type; the canonical form is
invariant under both, unless the rewrite introduces `'static`. -/

/-- `set_implicit_lifetimes(x)` keeps the canonical form (for `x` other than `static`). -/
theorem canon_setImplicit (x : String) (t : Ty) (hx : stripQuote x ≠ "static") :
    canonicalize (setImplicit x t) = canonicalize t := by
  simp [canonicalize, canonGo_setImplicit hx]

/-- … and leaves no implicit lifetime behind (for `x` other than `_`). -/
theorem setImplicit_explicit (x : String) (t : Ty) (hx : stripQuote x ≠ "_") :
    hasImplicit (setImplicit x t) = false := hasImplicit_setImplicit hx t

/-- `rename_lifetime_parameters(m)` keeps the canonical form if no target name is `static`. -/
theorem canon_renameLts (m : List (String × String)) (t : Ty) (hm : NoStaticTargets m) :
    canonicalize (renameLts m t) = canonicalize t := by
  simp [canonicalize, canonGo_rename hm]

example : canonicalize (setImplicit "'q" (.ref false .elided (.path false "p" none ["k", "Cow"] (.lt .inferred (.ty (.generic "T") .nil)))))
    = canonicalize (.ref false .elided (.path false "p" none ["k", "Cow"] (.lt .inferred (.ty (.generic "T") .nil)))) := by
  decide +kernel
-- the side condition is needed: writing `'static` changes the canonical form
example : canonicalize (setImplicit "static" (.ref false .elided (.scalar .u8))) ≠ canonicalize (.ref false .elided (.scalar .u8)) := by
  decide +kernel

/-- **C17 (4)** rendering a (well-formed) type to Rust source and parsing it back is lossless:
    the reader returns the type itself, minus what the source text does not carry (`strip`: package
    id, rustdoc id, and the path/alias distinction). Any nesting depth. -/
theorem parse_render (t : Ty) (h : wf t = true) : parse (renderD false t) = some (strip t) := by
  have hp := parseTy_render t (2 * (renderD false t).length + 2) [] h
    (Nat.le_add_right_of_le (need_le t h)) rfl
  rw [List.append_nil] at hp
  rw [parse, hp]

/-- The same for the `String` produced by `display_for_error` / `Display`. -/
theorem parse_displayForError (t : Ty) (h : wf t = true) :
    parse (displayForError t).toList = some (strip t) := by
  simp [displayForError, String.toList_ofList, parse_render t h]

/-- `render_type` (the rendering used for code generation, which looks crate names up by package id)
    is `display_for_error` of the same type with every path's first segment replaced by its crate
    name (`relabel`) — so the round trip above covers it too. -/
theorem renderType_eq (lk : List (String × String)) (t t' : Ty) (h : relabel lk t = some t')
    (hl : longPaths t = true) : renderType lk t = some (displayForError t') := by
  simp [renderType, displayForError, renderLk_relabel lk false t t' h hl]

theorem parse_renderType (lk : List (String × String)) (t t' : Ty) (h : relabel lk t = some t')
    (hl : longPaths t = true) (hw : wf t' = true) :
    (renderLk lk false t).bind parse = some (strip t') := by
  rw [renderLk_relabel lk false t t' h hl]
  exact parse_render t' hw

example : renderType [("p1", "kk")] (.path false "p1" none ["k", "Holder"] (.ty (.generic "T") .nil))
    = some "kk::Holder<T>" := by decide +kernel

/-- Hence rendering is injective on well-formed types up to `strip`: two types with the same
    rendered source are the same type. -/
theorem render_injective (a b : Ty) (ha : wf a = true) (hb : wf b = true)
    (h : renderD false a = renderD false b) : strip a = strip b := by
  have h1 := parse_render a ha
  have h2 := parse_render b hb
  rw [h, h2] at h1
  exact (Option.some.inj h1).symm

/-- In particular a 1-tuple is not confused with its element (it was, before the `fix:` commit:
    `(T,)` was printed as `(T)`). -/
theorem render_one_tuple_ne (t : Ty) (h : wf t = true) :
    renderD false (.tuple (.cons t .nil)) ≠ renderD false t := by
  intro e
  have := render_injective (.tuple (.cons t .nil)) t (by simpa [wf, wfTys] using h) h e
  cases t <;> simp [strip, stripTys] at this
  -- `tuple [x] = x` is impossible for the tuple case as well
  rename_i es
  have hsz := congrArg sizeOf this
  simp at hsz
  omega

-- Non-vacuity: `&'a mut k::Holder<(u8,), 'static, 8>` and `extern "C" fn(x: [T; 4]) -> *const str`.
example : wf (.ref true (.named "a") (.path true "p" (some 3) ["k", "Holder"]
    (.ty (.tuple (.cons (.scalar .u8) .nil)) (.lt .static (.const "8" .nil))))) = true := by decide +kernel
example : displayForError (.ref true (.named "a") (.path true "p" (some 3) ["k", "Holder"]
    (.ty (.tuple (.cons (.scalar .u8) .nil)) (.lt .static (.const "8" .nil)))))
    = "&'a mut k::Holder<(u8,), 'static, 8>" := by decide +kernel
example : wf (.fnPtr (.cons (some "x") (.array (.generic "T") 4) .nil) (.some (.rawPtr false (.scalar .str)))
    (.c false) false) = true := by decide +kernel
example : displayForError (.fnPtr (.cons (some "x") (.array (.generic "T") 4) .nil)
    (.some (.rawPtr false (.scalar .str))) (.c false) false)
    = "extern \"C\" fn(x: [T; 4]) -> *const str" := by decide +kernel
-- Outside `wf` the statement is false (a generic parameter named like a primitive reads back as the primitive).
example : parse (renderD false (.generic "u8")) = some (.scalar .u8) := by decide +kernel

end Pxv.Ty

#print axioms Pxv.Ty.parse_render
#print axioms Pxv.Ty.template_bind
#print axioms Pxv.Ty.refMut_preserved
#print axioms Pxv.Ty.equiv_trans
#print axioms Pxv.Ty.canon_idem
#print axioms Pxv.Ty.canon_eq_equiv
#print axioms Pxv.Ty.canon_eq_iff
