import Pxv.Model.Config
import Pxv.Lemmas.Config
/-!
C18 — configuration sources merge with the documented precedence (base file < profile file < `PX_*`
environment), missing pieces are errors, and `PX_PROFILE` / `__` are read as figment reads them.
-/
namespace Pxv.Config

/-- First defined of three optional leaves. -/
def firstOf (e p b : Option Leaf) : Option Leaf :=
  match e with
  | some v => some v
  | none => match p with
    | some v => some v
    | none => b

/-- **C18 (1) per-key precedence env > profile > base**, for every three dictionaries (= every
    assignment of every nested key to any subset of the sources, with any values) and every key
    path `k`, provided neither the profile file nor the environment disagrees with a leaf at `k`
    about the *shape* of the dictionary (`clash … = false`: no leaf strictly above or below `k`;
    DESIGN.md calls this `NoShapeConflict`). -/
theorem lookup_precedence (b p e : List (Path × Leaf)) (k : Path)
    (hp : clash k p = false) (he : clash k e = false) :
    lookup k (merge (merge b p) e) = firstOf (lookup k e) (lookup k p) (lookup k b) := by
  have hno : ∀ s ∈ [p, e], clash k s = false := by simp [hp, he]
  rw [show merge (merge b p) e = [p, e].foldl merge b from rfl, lookup_foldl_merge k _ b hno]
  simp only [List.foldl_cons, List.foldl_nil, firstOf]
  cases lookup k e <;> cases lookup k p <;> rfl

/-- and when there IS a shape conflict the later source still wins (the earlier leaf is dropped,
    never mixed): a key is only ever answered by one of the three sources. -/
theorem lookup_merge_from_a_source (b p e : List (Path × Leaf)) (k : Path) (v : Leaf)
    (h : lookup k (merge (merge b p) e) = some v) :
    lookup k e = some v ∨ (lookup k e = none ∧ lookup k p = some v) ∨
      (lookup k e = none ∧ lookup k p = none ∧ lookup k b = some v) := by
  rcases lookup_merge_some h with h | ⟨he, h⟩
  · exact .inl h
  · rcases lookup_merge_some h with h | ⟨hp, h⟩
    · exact .inr (.inl ⟨he, h⟩)
    · exact .inr (.inr ⟨he, hp, h⟩)

example :
    let b := [([[115], [104]], Leaf.str [98]), ([[115], [112]], Leaf.int 80), ([[100]], Leaf.bool false)]
    let p := [([[115], [104]], Leaf.str [112]), ([[100]], Leaf.bool true)]
    let e := [([[115], [112]], Leaf.int 9090)]
    lookup [[115], [104]] (merge (merge b p) e) = some (Leaf.str [112]) ∧
    lookup [[115], [112]] (merge (merge b p) e) = some (Leaf.int 9090) ∧
    lookup [[100]] (merge (merge b p) e) = some (Leaf.bool true) ∧
    clash [[115], [104]] p = false ∧ clash [[115], [104]] e = false := by decide +kernel

/-- **C18 (2) the loaded struct takes each key from the highest-precedence source that defines
    it**: whenever `load` succeeds, every key of the target struct holds the (strictly converted)
    leaf of the first of env / profile file / base file that defines it, and is `None` only if the
    key is optional and no source defines it. -/
theorem load_takes_highest_precedence (inp : Input) (profile : List Nat) (vals : List (Path × Val))
    (hsel : selectProfile inp.known inp.explicit inp.env = .ok profile)
    (h : load inp = .ok vals) (hn : (inp.schema.map (·.path)).Nodup)
    (key : Key) (hk : key ∈ inp.schema)
    (hp : clash key.path (sources inp profile).2.1 = false)
    (he : clash key.path (sources inp profile).2.2 = false) :
    ∃ v, lookupV key.path vals = some v ∧
      match firstOf (lookup key.path (sources inp profile).2.2) (lookup key.path (sources inp profile).2.1)
              (lookup key.path (sources inp profile).1) with
      | some l => convert key.ty l = some v
      | none => v = .none ∧ key.required = false := by
  rw [load_of_profile hsel] at h
  split at h
  · cases h
  · obtain ⟨v, hv, hl⟩ := extract_ok_key h hn key hk
    exact ⟨v, hl, lookup_precedence _ _ _ _ hp he ▸ extractKey_ok hv⟩

/-- **C18 (3) a missing required key is an error, not a default**: if a profile is selected and
    some required key of the target struct is defined by none of the three sources, `load` fails. -/
theorem missing_required_error (inp : Input) (profile : List Nat)
    (hsel : selectProfile inp.known inp.explicit inp.env = .ok profile)
    (key : Key) (hk : key ∈ inp.schema) (hreq : key.required = true)
    (hb : lookup key.path (sources inp profile).1 = none)
    (hp : lookup key.path (sources inp profile).2.1 = none)
    (he : lookup key.path (sources inp profile).2.2 = none) :
    load inp = .error .extract := by
  rw [load_of_profile hsel]
  split
  · rfl
  · refine extract_fails_of_key hk (extractKey_missing ?_ hreq)
    rw [lookup_merge_general, lookup_merge_general, he, hp, hb]
    simp

/-- **C18 (4) a missing profile is an error**: without an explicit profile, `PX_PROFILE` unset
    fails, and so does a value that is not one of the profile names; no default profile exists. -/
theorem missing_profile_error (inp : Input) (hex : inp.explicit = none) :
    (envVar pxProfileVar inp.env = none → load inp = .error .profileUnset) ∧
    (∀ v, envVar pxProfileVar inp.env = some v → inp.known.contains v = false →
      load inp = .error .profileInvalid) := by
  constructor
  · intro h
    simp [load, selectProfile, hex, h]
  · intro v h hv
    have hv' : ¬ v ∈ inp.known := by simpa using hv
    simp [load, selectProfile, hex, h, hv']

/-- A selected profile whose FILE does not exist is the empty profile (figment treats an absent
    file as an empty source): the result is the env-over-base merge. This is what the code does;
    `missing_profile_error` above is about the profile *selection*. -/
theorem absent_profile_file_is_empty (inp : Input) (profile : List Nat)
    (habs : findFile inp.absolute inp.files profile inp.depth = none) :
    merge (merge (sources inp profile).1 (sources inp profile).2.1) (sources inp profile).2.2 =
      merge (sources inp profile).1 (sources inp profile).2.2 := by
  simp [sources, habs, merge_nil_right]

/-- **C18 (5) `PX_PROFILE` is never a configuration key**: a variable named `PX_PROFILE` (any
    letter case, surrounding blanks ignored, as `figment` reads names) yields no key path at all … -/
theorem profile_var_yields_no_key (name : List Nat) (h : eqUncased (trim name) pxProfileVar = true) :
    envKey name = none := by
  unfold envKey
  simp only []
  generalize trim name = n at h ⊢
  -- what follows `PX_` lowers to `profile`: there is no `_` in it, so `replaceDU` leaves it alone
  have hd : lowerAll (n.drop 3) = lowerAll profileKey := by
    rw [lowerAll, List.map_drop, ← lowerAll, of_decide_eq_true h]
    rfl
  split
  · rw [replaceDU_of_lowerAll hd (by decide),
      if_pos (show eqUncased _ _ = true from decide_eq_true hd)]
  · rfl

/-- … so the environment source is exactly what it would be with every such variable removed,
    whatever its value: the variable only selects the profile (`selectProfile`). -/
theorem profile_not_a_key (vars : List (List Nat × List Nat)) :
    envSource vars = envSource (vars.filter (fun v => !eqUncased (trim v.1) pxProfileVar)) :=
  envFold_filter _ (fun v h => profile_var_yields_no_key v.1 (by simpa using h)) vars []

example : envKey [80, 88, 95, 80, 82, 79, 70, 73, 76, 69] = none ∧            -- PX_PROFILE
    envKey [112, 120, 95, 80, 114, 111, 102, 105, 108, 101] = none ∧          -- px_Profile
    envKey [80, 88, 95, 83, 69, 82, 86, 69, 82, 95, 95, 80, 79, 82, 84] = some [[115, 101, 114, 118, 101, 114], [112, 111, 114, 116]] ∧  -- PX_SERVER__PORT
    envKey [80, 88, 95, 80, 82, 79, 70, 73, 76, 69, 95, 95, 88] = some [[112, 114, 111, 102, 105, 108, 101], [120]] := by  -- PX_PROFILE__X is another variable
  decide +kernel

/-- A key segment as it appears in a variable name: non-empty, no blank, no dot, no `__` inside and
    no trailing `_` (single underscores inside are fine: `MAX_SIZE`). -/
def SegOk (s : List Nat) : Prop :=
  s ≠ [] ∧ noDU s = true ∧ s.getLast? ≠ some 95 ∧ ∀ b ∈ s, isWs b = false ∧ b ≠ 46

theorem SegOk.ne_nil {s : List Nat} (h : SegOk s) : s ≠ [] := h.1
theorem SegOk.no_double_underscore {s : List Nat} (h : SegOk s) : noDU s = true := h.2.1
theorem SegOk.last_ne {s : List Nat} (h : SegOk s) : s.getLast? ≠ some 95 := h.2.2.1
theorem SegOk.not_ws {s : List Nat} (h : SegOk s) {b : Nat} (hb : b ∈ s) : isWs b = false :=
  (h.2.2.2 b hb).1
theorem SegOk.no_dot {s : List Nat} (h : SegOk s) : 46 ∉ s := fun hm => (h.2.2.2 46 hm).2 rfl

/-- **C18 (6) `__` is the nesting separator**: for every depth and every list of key segments,
    the variable `PX_<S1>__<S2>__…__<Sn>` names exactly the nested key `s1.s2.….sn` (lower-cased) —
    unless that key is the reserved `PROFILE`. -/
theorem env_key_nested (segs : List (List Nat)) (hne : segs ≠ []) (hs : ∀ s ∈ segs, SegOk s)
    (hprof : eqUncased (joinWith [46] segs) profileKey = false) :
    envKey (pxPrefix ++ joinWith [95, 95] segs) = some (segs.map lowerAll) := by
  -- no byte of the name or of the dotted key is blank, so both `trim`s are the identity
  have hws (sep : List Nat) (hsep : ∀ b ∈ sep, isWs b = false) :
      ∀ b ∈ joinWith sep segs, isWs b = false :=
    fun b hb => (mem_joinWith hb).elim (hsep b) fun ⟨s, hsm, hbs⟩ => (hs s hsm).not_ws hbs
  have htrim : trim (pxPrefix ++ joinWith [95, 95] segs) = pxPrefix ++ joinWith [95, 95] segs :=
    trim_id_of_all fun b hb => (List.mem_append.mp hb).elim
      ((by decide : ∀ b ∈ pxPrefix, isWs b = false) b) (hws _ (by decide) b)
  have hk : replaceDU (joinWith [95, 95] segs) = joinWith [46] segs :=
    replaceDU_join segs fun s h => ⟨(hs s h).no_double_underscore, (hs s h).last_ne⟩
  have hsplit : splitDot (joinWith [46] segs) = segs :=
    splitDot_join segs hne fun s h => (hs s h).no_dot
  have hany : segs.any (·.isEmpty) = false :=
    List.any_eq_false.mpr fun s h => by simpa using (hs s h).ne_nil
  have htake : (pxPrefix ++ joinWith [95, 95] segs).take 3 = pxPrefix := List.take_left' rfl
  have hdrop : (pxPrefix ++ joinWith [95, 95] segs).drop 3 = joinWith [95, 95] segs :=
    List.drop_left' rfl
  have hlen : 3 ≤ (pxPrefix ++ joinWith [95, 95] segs).length := by simp [pxPrefix]
  simp only [envKey, htrim, htake, hdrop, eqUncased_refl, hlen, decide_true, Bool.and_self, if_true,
    hk, hprof, Bool.false_eq_true, if_false, trim_id_of_all (hws [46] (by decide)), hsplit, hany]

example : envKey (pxPrefix ++ joinWith [95, 95] [[68, 66], [80, 79, 79, 76], [77, 65, 88, 95, 83, 73, 90, 69]]) =
    some [[100, 98], [112, 111, 111, 108], [109, 97, 120, 95, 115, 105, 122, 101]] := by decide +kernel  -- PX_DB__POOL__MAX_SIZE

end Pxv.Config
