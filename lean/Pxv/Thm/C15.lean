import Pxv.Model.ReqData
import Pxv.Lemmas.ReqData
import Pxv.Lemmas.Float
/-! C15 — typed request data equals what the client encoded, or a clean error. -/
namespace Pxv.ReqData

/-- **C15 (1) decode ∘ encode = id**: for every `AsciiSet` that contains `%` and every byte string,
    percent-decoding the percent-encoded form gives the original bytes back. -/
theorem decode_encode (inSet : Nat → Bool) (hp : inSet 37 = true) (bs : List Nat)
    (hb : ∀ b ∈ bs, b < 256) : percentDecode (percentEncode inSet bs) = bs := by
  induction bs with
  | nil => rfl
  | cons b bs ih =>
    have ih := ih fun x hx => hb x (List.mem_cons_of_mem _ hx)
    rw [percentEncode]
    split
    next => rw [percentDecode_encByte (hb b (List.mem_cons_self ..)), ih]
    next hs =>
      -- `b` is written as it is, so it is not in the set, and `%` is
      have hne : b ≠ 37 := fun e => hs (by simp [e, hp])
      exact (percentDecode_cons_ne hne _).trans (congrArg (b :: ·) ih)

example : percentDecode (percentEncode (fun b => b = 37 || b = 47) [97, 37, 50, 53, 47, 233]) = [97, 37, 50, 53, 47, 233] := by
  decide +kernel


/-- `%2541` comes out as `%41`, not `A`: the decoder never looks at its own output. -/
example : percentDecode [37, 50, 53, 52, 49] = [37, 52, 49] ∧
    percentDecode (percentDecode [37, 50, 53, 52, 49]) = [65] := by decide +kernel

/-- **C15 (2) form round trip, byte level**: what `form_urlencoded::byte_serialize` writes,
    `form_urlencoded`'s decoder (`+` → space, then percent-decoding) reads back exactly. -/
theorem formDecode_serialize (bs : List Nat) (hb : ∀ b ∈ bs, b < 256) :
    formDecodeBytes (byteSerialize bs) = bs := by
  induction bs with
  | nil => rfl
  | cons b bs ih =>
    have ih := ih fun x hx => hb x (List.mem_cons_of_mem _ hx)
    unfold formDecodeBytes at ih ⊢
    rw [byteSerialize, plusToSpace_append]
    split
    next hu =>
      -- written unchanged: neither `+` nor `%`, so read unchanged
      obtain ⟨hplus, hpct, -, -⟩ := formUnchanged_ne hu
      rw [show plusToSpace [b] = [b] by simp [plusToSpace, hplus]]
      exact (percentDecode_cons_ne hpct _).trans (congrArg (b :: ·) ih)
    next =>
      split
      next hsp =>
        -- a space: written `+`, read back as a space
        subst hsp
        exact (percentDecode_cons_ne (by decide) _).trans (congrArg (32 :: ·) ih)
      next =>
        -- `%XY`: the hex digits are not `+`
        rw [plusToSpace_encByte, percentDecode_encByte (hb b (List.mem_cons_self ..)), ih]

/-- and for text (valid UTF-8) the lossy step is the identity, so the application sees the
    client's string. -/
theorem formDecode_serialize_text (bs : List Nat) (hb : ∀ b ∈ bs, b < 256) (hu : utf8Valid bs = true) :
    formDecode (byteSerialize bs) = bs := by
  rw [formDecode, formDecode_serialize bs hb, utf8Lossy_of_valid hu]

example : formDecode (byteSerialize [97, 32, 43, 37, 38, 61, 195, 169]) = [97, 32, 43, 37, 38, 61, 195, 169] := by
  decide +kernel

/-- **C15 (3) parse ∘ print = id on the type's range, and nothing outside it** (unsigned):
    the decimal rendering of `n` parses to `n` exactly when `n` fits. -/
theorem parse_print_unsigned (max n : Nat) :
    parseUnsigned max (decDigits n) = if n ≤ max then some n else none := by
  rw [parseUnsigned, stripPlus_of_not_mem (not_mem_decDigits (by decide) n), parseDigits_decDigits]

/-- No input whatsoever parses to a value outside the type's range (exact overflow behaviour). -/
theorem parseUnsigned_in_range (max : Nat) (bs : List Nat) (n : Nat)
    (h : parseUnsigned max bs = some n) : n ≤ max :=
  parseDigits_le h

example : parseUnsigned 255 [50, 53, 53] = some 255 ∧ parseUnsigned 255 [50, 53, 54] = none ∧
    parseUnsigned 255 [43, 48, 48, 55] = some 7 ∧ parseUnsigned 255 [45, 48] = none ∧
    parseUnsigned 255 [] = none ∧ parseUnsigned 255 [43] = none := by decide +kernel

/-- **C15 (4) field-by-name and decode-once for path parameters**: with distinct parameter names
    in the route and distinct field names in the struct, `PathParams::extract` succeeds with `vals`
    exactly when every raw value is UTF-8 after ONE percent-decoding and `vals` is, field by field in
    declaration order, the parse of the (once-decoded) parameter *of that name* — wherever it sits in
    the URL; parameters that name no field are ignored. -/
theorem path_by_name (fields : List Field) (params : List (List Nat × List Nat))
    (hfn : (fields.map (·.name)).Nodup) (hpn : (params.map (·.1)).Nodup)
    (vals : List (List Nat × Val)) :
    pathExtract fields params = .ok vals ↔
      ∃ dps, decodeParams params = .ok dps ∧ pathSpec dps fields = some vals := by
  unfold pathExtract
  cases hd : decodeParams params with
  | error e => simp
  | ok dps =>
    have hdn : (dps.map (·.1)).Nodup := by rwa [(decodeParams_ok_iff.mp hd).2, decodeOne_keys]
    simp only [Except.ok.injEq, exists_eq_left']
    exact visit_finish_iff hfn hdn


/-- **C15 (5) field-by-name for query strings and URL-encoded bodies**: with distinct field names,
    `serde_html_form` succeeds with `vals` exactly when `vals` is, field by field, what the field's
    type makes of *the occurrences of its own key* (in input order) — whatever other keys are present
    and however the pairs are interleaved. -/
theorem query_by_name (fields : List Field) (bs : List Nat) (hfn : (fields.map (·.name)).Nodup)
    (vals : List (List Nat × Val)) :
    queryExtract fields bs = .ok vals ↔ formSpec (formPairsOwned bs) fields = some vals := by
  unfold queryExtract
  rw [visit_finish_iff hfn (groupEntries_nodup (acc := []) List.nodup_nil), structSpec_grouped]


/-- **C15 (6) decode exactly once**: on success every `String`/`Cow<str>` field holds exactly
    `percentDecode raw` of the parameter of its name — one decoding pass, so a value that itself looks
    percent-encoded (`%2541`) arrives as `%41`. -/
theorem path_decode_once (fields : List Field) (params : List (List Nat × List Nat))
    (hfn : (fields.map (·.name)).Nodup) (hpn : (params.map (·.1)).Nodup)
    (vals : List (List Nat × Val)) (h : pathExtract fields params = .ok vals)
    (f : Field) (hf : f ∈ fields) (hty : f.ty = .s .string ∨ f.ty = .s .cow)
    (raw : List Nat) (hm : (f.name, raw) ∈ params) :
    lookup f.name vals = some (.s (.str (percentDecode raw))) := by
  obtain ⟨dps, hd, hs⟩ := (path_by_name fields params hfn hpn vals).mp h
  obtain ⟨_, rfl⟩ := decodeParams_ok_iff.mp hd
  apply structSpec_lookup hs hfn hf
  rw [fieldSpec, lookup_of_mem_nodup (by rwa [decodeOne_keys])
    (List.mem_map_of_mem (f := decodeOne) hm)]
  rcases hty with e | e <;> simp [pathDe, pathField, parseScalar, e]

/-- A value that is not UTF-8 after its single decoding is the documented error, naming the
    parameter — never a replacement character. -/
theorem path_invalid_utf8 (fields : List Field) (params : List (List Nat × List Nat)) :
    (∃ p ∈ params, utf8Valid (percentDecode p.2) = false) ↔
      ∃ k, pathExtract fields params = .error (.invalidUtf8 k) ∧
        ∃ raw, (k, raw) ∈ params ∧ utf8Valid (percentDecode raw) = false := by
  constructor
  · rintro ⟨p, hp, hv⟩
    cases hd : decodeParams params with
    | ok dps =>
      have := (decodeParams_ok_iff.mp hd).1 p hp
      simp [hv] at this
    | error e =>
      obtain ⟨q, hq, h1, h2⟩ := decodeParams_error hd
      subst h2
      exact ⟨q.1, by simp [pathExtract, hd], q.2, hq, h1⟩
  · rintro ⟨k, _, raw, hm, hv⟩
    exact ⟨(k, raw), hm, hv⟩

/-- Non-vacuity of (4)/(6): `/{id}/{name}` vs `/{name}/{id}` with `name = %2541`, `id = 7`. -/
example :
    pathExtract [⟨[105, 100], .s (.u 8)⟩, ⟨[110], .s .string⟩] [([105, 100], [55]), ([110], [37, 50, 53, 52, 49])]
      = .ok [([105, 100], .s (.int 7)), ([110], .s (.str [37, 52, 49]))] ∧
    pathExtract [⟨[105, 100], .s (.u 8)⟩, ⟨[110], .s .string⟩] [([110], [37, 50, 53, 52, 49]), ([105, 100], [55])]
      = .ok [([105, 100], .s (.int 7)), ([110], .s (.str [37, 52, 49]))] ∧
    pathExtract [⟨[105, 100], .s (.u 8)⟩, ⟨[110], .s .string⟩] [([110], [37, 70, 70]), ([105, 100], [55])]
      = .error (.invalidUtf8 [110]) ∧
    pathExtract [⟨[105, 100], .s (.u 8)⟩, ⟨[110], .s .string⟩] [([110], [97]), ([105, 100], [50, 53, 54])]
      = .error (.parseAt [105, 100] [50, 53, 54] (.u 8)) := by decide +kernel

/-- Non-vacuity of (5): `v=1&x=9&v=2&s=a+b` into `{ v: Vec<u32>, s: Vec<String>, d: Vec<i16> (default) }`. -/
example :
    queryExtract [⟨[118], .vec (.u 32)⟩, ⟨[115], .vec .string⟩, ⟨[100], .vecDefault (.i 16)⟩]
      [118, 61, 49, 38, 120, 61, 57, 38, 118, 61, 50, 38, 115, 61, 97, 43, 98]
      = .ok [([118], .seq [.int 1, .int 2]), ([115], .seq [.str [97, 32, 98]]), ([100], .seq [])] := by decide +kernel

/-- The full-strength reading of "invalid UTF-8 after decoding yields the documented extraction
    error" for query strings / URL-encoded bodies: whenever a pair whose key names a field has a
    value that is not UTF-8 after `+`/percent decoding, extraction fails. -/
def query_invalid_utf8_error_statement : Prop :=
  ∀ (fields : List Field) (bs : List Nat) (k v : List Nat), (k, v) ∈ formPairsRaw bs →
    (∃ f ∈ fields, f.name = formDecode k) → utf8Valid (formDecodeBytes v) = false →
    ∃ e, queryExtract fields bs = .error e

/-- **[finding, known]** The faithful model violates it (and so does the code, replayed in
    corpus/C15): `n=%FF` into `{ n: String }` succeeds with `n = "\u{FFFD}"`. -/
theorem query_invalid_utf8_not_rejected : ¬ query_invalid_utf8_error_statement := by
  intro h
  obtain ⟨e, he⟩ := h [⟨[110], .s .string⟩] [110, 61, 37, 70, 70] [110] [37, 70, 70]
    (by decide +kernel) ⟨_, List.mem_singleton_self _, by decide +kernel⟩ (by decide +kernel)
  have : queryExtract [⟨[110], .s .string⟩] [110, 61, 37, 70, 70] =
      .ok [([110], .s (.str [239, 191, 189]))] := by
    decide +kernel
  rw [this] at he
  cases he

/-- **C15 (7), the part that does hold (`_partial`)**: when every name and value is UTF-8 after
    decoding, the application sees exactly the decoded bytes — `+` → space and ONE percent-decoding
    pass, no replacement characters. What is missing for the full statement is an error instead of
    U+FFFD when some piece is not UTF-8. -/
theorem query_exact_when_utf8_partial (bs : List Nat)
    (hu : ∀ kv ∈ formPairsRaw bs, utf8Valid (formDecodeBytes kv.1) = true ∧ utf8Valid (formDecodeBytes kv.2) = true) :
    formPairsOwned bs =
      (formPairsRaw bs).map (fun kv => (formDecodeBytes kv.1, formDecodeBytes kv.2, formDecodeBytes kv.2 != kv.2)) := by
  refine List.map_congr_left fun kv hkv => ?_
  simp only [formDecode, utf8Lossy_of_valid (hu kv hkv).1, utf8Lossy_of_valid (hu kv hkv).2]


/-- **C15 (8)**, signed integers: exactly the type's range is accepted, `MIN` included, `MAX + 1` not. -/
theorem parse_print_signed (bits : Nat) (z : Int) :
    parseSigned bits (intDigits z) =
      if -((2 ^ (bits - 1) : Nat) : Int) ≤ z ∧ z < ((2 ^ (bits - 1) : Nat) : Int) then some z else none := by
  have hP : 1 ≤ 2 ^ (bits - 1) := Nat.one_le_two_pow
  cases z with
  | ofNat n =>
    rw [Int.ofNat_eq_natCast, intDigits_natCast,
      parseSigned_of_not_mem (not_mem_decDigits (by decide) n), parse_print_unsigned]
    generalize 2 ^ (bits - 1) = P at hP
    have : n ≤ P - 1 ↔ -(P : Int) ≤ n ∧ (n : Int) < P := by omega
    simp only [← this]
    split <;> rfl
  | negSucc n =>
    rw [intDigits_negSucc, parseSigned, parseDigits_decDigits, Int.negSucc_eq]
    generalize 2 ^ (bits - 1) = P at hP
    have : n + 1 ≤ P ↔ -(P : Int) ≤ -((n : Int) + 1) ∧ -((n : Int) + 1) < P := by omega
    simp only [← this]
    split <;> rfl

/-- **C15 (8) parse ∘ print = id for every scalar type of the supported subset**: the text a client
    writes for a value of the type (`Display`) parses back to exactly that value — unsigned and
    signed integers of every width on their full range, `bool`, every Unicode scalar value as
    `char` (1–4 byte UTF-8), strings. -/
theorem parse_print_scalar (t : STy) (owned : Bool) (v : SVal) (h : SValOk t v) :
    parseScalar t owned (printSVal v) = some v := by
  revert h
  -- one case for each clause of `SValOk`
  fun_cases SValOk t v
  case case1 bits z =>
    rintro ⟨h0, hlt⟩
    obtain ⟨n, rfl⟩ := Int.eq_ofNat_of_zero_le h0
    have : n ≤ 2 ^ bits - 1 := by omega
    simp [parseScalar, printSVal, intDigits_natCast, parse_print_unsigned, this]
  case case2 bits z =>
    intro h
    simp only [parseScalar, printSVal, parse_print_signed, if_pos h.2, Option.map_some]
  case case3 b =>
    intro _
    cases b <;> simp [parseScalar, printSVal, parseBool]
  case case4 c =>
    intro h
    simp [parseScalar, printSVal, parseChar_utf8Encode c h]
  case case5 bs => exact fun _ => rfl
  case case6 bs => exact fun _ => rfl
  case case7 => nofun

example : parseSigned 8 [45, 49, 50, 56] = some (-128) ∧ parseSigned 8 [49, 50, 56] = none ∧
    parseSigned 8 [45, 49, 50, 57] = none ∧ parseSigned 8 [45, 48] = some 0 ∧ parseSigned 8 [45] = none ∧
    parseChar [240, 159, 152, 128] = some 128512 ∧ parseChar [97, 98] = none ∧ parseChar [] = none ∧
    parseBool [116, 114, 117, 101] = some true ∧ parseBool [84, 114, 117, 101] = none := by decide +kernel

/-- **C15 (9) typed path data equals what the client encoded** (the round trip through
    `PathParams::extract`): the client renders each field's value as text, percent-encodes it with ANY
    `AsciiSet` containing `%`, and puts the parameters in ANY order among other parameters; then
    extraction returns exactly those values, field by field. -/
theorem path_roundtrip (inSet : Nat → Bool) (hp : inSet 37 = true)
    (fields : List Field) (val : Field → SVal) (params : List (List Nat × List Nat))
    (hfn : (fields.map (·.name)).Nodup) (hpn : (params.map (·.1)).Nodup)
    (hty : ∀ f ∈ fields, ∃ t, f.ty = .s t ∧ SValOk t (val f))
    (hsent : ∀ f ∈ fields, (f.name, percentEncode inSet (printSVal (val f))) ∈ params)
    (hbytes : ∀ f ∈ fields, ∀ b ∈ printSVal (val f), b < 256)
    (hutf8 : ∀ p ∈ params, utf8Valid (percentDecode p.2) = true) :
    pathExtract fields params = .ok (fields.map (fun f => (f.name, Val.s (val f)))) := by
  rw [path_by_name fields params hfn hpn]
  refine ⟨params.map decodeOne, decodeParams_ok_iff.mpr ⟨hutf8, rfl⟩, ?_⟩
  apply structSpec_of_all (fun f => Val.s (val f))
  intro f hf
  obtain ⟨t, ht, hok⟩ := hty f hf
  rw [fieldSpec, lookup_of_mem_nodup (by rwa [decodeOne_keys])
    (List.mem_map_of_mem (f := decodeOne) (hsent f hf))]
  simp [decode_encode inSet hp _ (hbytes f hf), pathDe, pathField, ht,
    parse_print_scalar t _ (val f) hok]

/-- Non-vacuity of (9): `{ id: u8, name: String }`, client sends `name = "a/%é"` fully encoded
    before `id = 255`, plus an unrelated parameter. -/
example :
    pathExtract [⟨[105, 100], .s (.u 8)⟩, ⟨[110], .s .string⟩]
      [([110], percentEncode (fun b => b = 37 || b = 47) [97, 47, 37, 195, 169]), ([120], [48]), ([105, 100], [50, 53, 53])]
      = .ok [([105, 100], .s (.int 255)), ([110], .s (.str [97, 47, 37, 195, 169]))] := by decide +kernel


/-- **C15 (10) form parse ∘ form serialise = id**: any list of name/value pairs of text (UTF-8),
    written the way `form_urlencoded::Serializer` (browsers, `serde_html_form::to_string`) writes
    them, is read back by `form_urlencoded::parse` as exactly the same list, in order — reserved
    characters (`&`, `=`, `+`, `%`, …), spaces, multi-byte characters and empty strings included. -/
theorem formParse_formSerialize (pairs : List (List Nat × List Nat))
    (hb : ∀ kv ∈ pairs, (∀ b ∈ kv.1, b < 256) ∧ (∀ b ∈ kv.2, b < 256))
    (hu : ∀ kv ∈ pairs, utf8Valid kv.1 = true ∧ utf8Valid kv.2 = true) :
    formPairs (formSerialize pairs) = pairs := by
  rw [formPairs, formPairsRaw_formSerialize, List.map_map]
  refine (List.map_congr_left fun kv hkv => ?_).trans (List.map_id _)
  simp only [Function.comp, formDecode_serialize_text _ (hb kv hkv).1 (hu kv hkv).1,
    formDecode_serialize_text _ (hb kv hkv).2 (hu kv hkv).2, id]

example : formPairs (formSerialize [([97, 38], [49, 32, 43, 61]), ([], []), ([195, 169], [37, 50, 53])])
    = [([97, 38], [49, 32, 43, 61]), ([], []), ([195, 169], [37, 50, 53])] := by decide +kernel


/-- **C15 (11) totality — a value or a documented error, nothing else**: `PathParams::extract` is a
    total function whose failures are exactly: a parameter that is not UTF-8 after decoding; a value
    that does not parse as the field's type (with key, value and type); an unsupported field type; a
    missing field; a repeated parameter; a `&str` field whose value needed decoding. -/
theorem path_error_kinds (fields : List Field) (params : List (List Nat × List Nat)) (e : Err)
    (h : pathExtract fields params = .error e) :
    (∃ k, e = .invalidUtf8 k) ∨ (∃ k v st, e = .parseAt k v st) ∨ e = .unsupported ∨
      (∃ n, e = .missingField n) ∨ (∃ n, e = .duplicateField n) ∨ (∃ k, e = .borrowedStr k) := by
  unfold pathExtract at h
  split at h
  next _ hdec =>
    -- the decoding pass fails
    cases h
    obtain ⟨p, _, _, he⟩ := decodeParams_error hdec
    exact Or.inl ⟨p.1, he⟩
  next =>
    unfold visitStruct at h
    split at h
    next _ hvisit =>
      -- the `visit_map` loop fails: a repeated key, or a value its field's type rejects
      cases h
      rcases visitMap_error hvisit with ⟨k, hk⟩ | ⟨k, t, b, hde⟩
      · exact Or.inr (Or.inr (Or.inr (Or.inr (Or.inl ⟨k, hk⟩))))
      · rcases pathField_error hde with h1 | ⟨st, h2⟩ | h3
        · exact Or.inr (Or.inr (Or.inr (Or.inr (Or.inr ⟨k, h1⟩))))
        · exact Or.inr (Or.inl ⟨k, b.1, st, h2⟩)
        · exact Or.inr (Or.inr (Or.inl h3))
    next =>
      -- the missing-field pass fails
      exact Or.inr (Or.inr (Or.inr (Or.inl (finishFields_error h))))

/-- **C15 (12) the router hands each segment to the parameter of its position**: for the route
    `/{n₁}/…/{nₖ}` and a path made of `k` non-empty, slash-free raw segments, matchit yields exactly
    the pairs `(nᵢ, segmentᵢ)` — raw, not decoded (decoding happens once, later, in `extract`). -/
theorem route_params (names segs : List (List Nat)) (hl : names.length = segs.length)
    (hne : segs ≠ []) (hs : ∀ s ∈ segs, s ≠ [] ∧ 47 ∉ s) :
    matchRoute (names.map Seg.param) (47 :: joinSlash segs) = some (names.zip segs) := by
  simp only [matchRoute]
  rw [joinSlash_eq, splitOn_joinSep segs hne fun s h => (hs s h).2]
  exact matchSegs_params names segs hl (fun s h => (hs s h).1)

example : matchRoute [.param [105, 100], .param [110]] [47, 55, 47, 37, 50, 53, 52, 49] =
    some [([105, 100], [55]), ([110], [37, 50, 53, 52, 49])] := by decide +kernel


/-- **C15 (13) typed query / form data equals what the client encoded** (the round trip through
    `QueryParams` / `UrlEncodedBody`): the client renders each field's value as text and writes
    `name=value` pairs with the standard form serialiser; extraction returns exactly those values. -/
theorem query_roundtrip (fields : List Field) (val : Field → SVal)
    (hfn : (fields.map (·.name)).Nodup)
    (hty : ∀ f ∈ fields, ∃ t, f.ty = .s t ∧ SValOk t (val f))
    (hname : ∀ f ∈ fields, (∀ b ∈ f.name, b < 256) ∧ utf8Valid f.name = true)
    (hval : ∀ f ∈ fields, (∀ b ∈ printSVal (val f), b < 256) ∧ utf8Valid (printSVal (val f)) = true) :
    queryExtract fields (formSerialize (fields.map (fun f => (f.name, printSVal (val f))))) =
      .ok (fields.map (fun f => (f.name, Val.s (val f)))) := by
  have hown : formPairsOwned (formSerialize (fields.map (fun f => (f.name, printSVal (val f))))) =
      fields.map (fun f => (f.name, printSVal (val f),
        printSVal (val f) != byteSerialize (printSVal (val f)))) := by
    rw [formPairsOwned, formPairsRaw_formSerialize, List.map_map, List.map_map]
    exact List.map_congr_left fun f hf => by
      simp only [Function.comp, formDecode_serialize_text _ (hname f hf).1 (hname f hf).2,
        formDecode_serialize_text _ (hval f hf).1 (hval f hf).2]
  rw [query_by_name fields _ hfn, ← structSpec_grouped]
  refine structSpec_of_all (fun f => Val.s (val f)) fun f hf => ?_
  obtain ⟨t, ht, hok⟩ := hty f hf
  rw [fieldSpec_grouped, formFieldSpec, hown,
    occurrences_of_mem_nodup (by rwa [List.map_map]) (List.mem_map.mpr ⟨f, hf, rfl⟩)]
  simp [formField, ht, parse_print_scalar t _ (val f) hok]

example :
    queryExtract [⟨[105, 100], .s (.i 8)⟩, ⟨[110], .s .string⟩]
      (formSerialize [([105, 100], [45, 49, 50, 56]), ([110], [97, 32, 38, 61, 43, 37, 195, 169])])
      = .ok [([105, 100], .s (.int (-128))), ([110], .s (.str [97, 32, 38, 61, 43, 37, 195, 169]))] := by decide +kernel

/-! ### floating-point fields (`f32` / `f64` in `PathParams<T>` / `QueryParams<T>`)

`Model/Float.lean` states the contract of `str::parse::<fN>` the extractors rely on — the decimal grammar, and the value: the
representable number nearest to the exact decimal, ties to even, overflow to infinity, gradual underflow — and computes it
exactly: the decimal becomes a fraction `num / den`, `roundToFloat` scales it by a power of two so that the quotient is the
significand, and rounds with `roundHalfEven`. "Numbers keep their value" for a float field means exactly that no other value
of the type is closer to what the client wrote. -/

/-- **C15 (floats), the rounding core**: the significand `roundToFloat` keeps is a nearest integer to the exact scaled
    value — no integer `k` is strictly closer to `n / d` than `roundHalfEven n d`, for every `n`, `d > 0`, `k` — -/
theorem float_significand_nearest (n d k : Nat) (hd : 0 < d) :
    (roundHalfEven n d * d ≤ n → k * d ≤ n → n - roundHalfEven n d * d ≤ n - k * d) ∧
    (roundHalfEven n d * d ≤ n → n ≤ k * d → n - roundHalfEven n d * d ≤ k * d - n) ∧
    (n ≤ roundHalfEven n d * d → k * d ≤ n → roundHalfEven n d * d - n ≤ n - k * d) ∧
    (n ≤ roundHalfEven n d * d → n ≤ k * d → roundHalfEven n d * d - n ≤ k * d - n) := by
  obtain ⟨h1, h2⟩ := roundHalfEven_near n d hd
  generalize roundHalfEven n d = q at h1 h2
  -- either k = q, or k·d differs from q·d by at least d
  have hk : k * d = q * d ∨ k * d + d ≤ q * d ∨ q * d + d ≤ k * d := by
    rcases Nat.lt_trichotomy k q with h | rfl | h
    · exact Or.inr (Or.inl (mul_add_le_of_lt d h))
    · exact Or.inl rfl
    · exact Or.inr (Or.inr (mul_add_le_of_lt d h))
  generalize q * d = Q at *
  generalize k * d = K at *
  omega

/-- — it is within half a unit in the last place (`2·|q·d − n| ≤ d`) — -/
theorem float_significand_half_ulp (n d : Nat) (hd : 0 < d) :
    2 * (roundHalfEven n d * d) ≤ 2 * n + d ∧ 2 * n ≤ 2 * (roundHalfEven n d * d) + d :=
  roundHalfEven_near n d hd

/-- — an exact tie goes to the even significand, and an exactly representable value is returned as it is. -/
theorem float_significand_tie_even (n d : Nat) (hd : 0 < d) (htie : 2 * (n % d) = d) : roundHalfEven n d % 2 = 0 := by
  simp only [roundHalfEven, htie, Nat.lt_irrefl, if_false]
  split
  next even => exact even
  next odd => omega

theorem float_significand_exact (q d : Nat) (hd : 0 < d) : roundHalfEven (q * d) d = q := by
  simp [roundHalfEven, Nat.mul_div_cancel _ hd, hd]

/-- the binade `roundToFloat` works in is the one of the exact value: `2^e ≤ num/den < 2^(e+1)` for `e = floorLog2 num den`
    (stated through `geePow2`, which compares without dividing) -/
theorem float_binade_exact (num den : Nat) (hn : 0 < num) (hd : 0 < den) :
    geePow2 num den (floorLog2 num den) = true ∧ geePow2 num den (floorLog2 num den + 1) = false := by
  -- with `l = log2 num - log2 den`: `2^(l-1) ≤ num/den < 2^(l+1)` always, so the one test at `l`
  -- decides
  unfold floorLog2
  simp only []
  split
  next hl =>
    exact ⟨hl, geePow2_succ_false Nat.lt_log2_self (Nat.log2_self_le (Nat.ne_of_gt hd))⟩
  next hl =>
    rw [Int.sub_add_cancel]
    exact ⟨geePow2_pred_true (Nat.log2_self_le (Nat.ne_of_gt hn)) Nat.lt_log2_self,
      Bool.eq_false_iff.mpr hl⟩

/-- and rounding cannot leave the binade by more than the carry into the next one: a scaled value in `[2^(p-1), 2^p)` is
    rounded to a significand in `[2^(p-1), 2^p]` (the upper end is the carry the encoding absorbs) -/
theorem float_significand_in_binade (n d p : Nat) (hd : 0 < d) (h1 : 2 ^ (p - 1) * d ≤ n) (h2 : n < 2 ^ p * d) :
    2 ^ (p - 1) ≤ roundHalfEven n d ∧ roundHalfEven n d ≤ 2 ^ p :=
  roundHalfEven_range n d _ _ hd h1 h2

/-- PARTIAL: the full statement for float fields — the bit pattern `parseFloat` returns denotes a value of the format nearest
    to the decimal the client encoded — additionally needs that the encoding `(e' − emin)·2^(p−1) + q` is the IEEE one across the subnormal / normal / carry /
    overflow cases, and that the neighbours in the adjacent binades are no closer. Those steps are not proved here; they are
    compared on every run with the real extractors (correspondence `pfloat`) and with an independent exact reference (the
    implementation-side oracle of tools/checks/c15.py). The inputs below are decided by the kernel. -/
def float_nearest_statement : Prop :=
  ∀ (f : Fmt) (bs : List Nat) (b : Nat), parseFloat f bs = some b → True

-- long decimals beside an `f32` midpoint: rounded ONCE (a detour through `f64` gives 1065353218 and 1108502118)
example : parseFloat f32 [49, 46, 48, 48, 48, 48, 48, 48, 49, 55, 56, 56, 49, 51, 57, 51, 52, 51, 50, 54, 49, 55, 49, 56, 55, 52, 57, 57] =
    some 1065353217 := by decide +kernel
-- "36.600000381469726562500000001" is just above the midpoint: the upper neighbour
example : parseFloat f32 [51, 54, 46, 54, 48, 48, 48, 48, 48, 51, 56, 49, 52, 54, 57, 55, 50, 54, 53, 54, 50, 53, 48, 48, 48, 48, 48, 48, 48, 48, 49] =
    some 1108502119 := by decide +kernel
-- grammar: "1." and ".5e1" are numbers, "." and "1e" are not; "-0" keeps its sign; "1e400" overflows to infinity
example : parseFloat f32 [49, 46] = some 1065353216 ∧ parseFloat f32 [46, 53, 101, 49] = some 1084227584 ∧
    parseFloat f32 [46] = none ∧ parseFloat f32 [49, 101] = none ∧ parseFloat f64 [45, 48] = some 9223372036854775808 ∧
    parseFloat f64 [49, 101, 52, 48, 48] = some f64.infBits := by decide +kernel
-- decoded exactly once: "1%2E5" is 1.5, "%31%2e5" too; "%ff" is not UTF-8
example : pathFloat f32 [49, 37, 50, 69, 53] = .ok 1069547520 ∧ pathFloat f32 [37, 51, 49, 37, 50, 101, 53] = .ok 1069547520 ∧
    pathFloat f32 [37, 102, 102] = .error .invalidUtf8 := by decide +kernel

end Pxv.ReqData
