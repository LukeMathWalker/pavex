import Pxv.Model.Generate
import Pxv.Lemmas.Manifest
/-!
C10 — code generation is deterministic, cache-independent and idempotent (the modelled part):
persistence never touches a file whose bytes are already right, `--check` never writes, `--check`
succeeds exactly when an update run would write nothing, and a read-through cache that only ever
stores `f k` under `k` is transparent for every history of prior insertions.
-/
namespace Pxv.Gen

theorem persist_check (w : Writer) (fs : FS) (p : String) (c : List Nat) (h : w.mode = .check) :
    (w.persist fs p c).2 = fs ∧ (w.persist fs p c).1.mode = .check ∧
    (w.persist fs p c).1.writes = w.writes ∧
    ((w.persist fs p c).1.outdated = [] ↔ w.outdated = [] ∧ hasChanged fs p c = false) := by
  cases hch : hasChanged fs p c with
  | false =>
    have e : w.persist fs p c = (w, fs) := by
      simp only [Writer.persist, h, hch, Bool.false_and, Bool.false_eq_true, ↓reduceIte]
    rw [e]
    exact ⟨rfl, h, rfl, fun ho => ⟨ho, rfl⟩, fun ho => ho.1⟩
  | true =>
    -- out of date: `p` is in `outdated` afterwards, there before or appended now: not empty
    cases hin : w.outdated.contains p with
    | true =>
      have e : w.persist fs p c = (w, fs) := by
        simp only [Writer.persist, h, hch, hin, Bool.not_true, Bool.and_false, Bool.false_eq_true,
          ↓reduceIte]
      rw [e]
      refine ⟨rfl, h, rfl, fun ho => ?_, fun ho => nomatch ho.2⟩
      rw [ho] at hin
      cases hin
    | false =>
      have e : w.persist fs p c = ({ w with outdated := w.outdated ++ [p] }, fs) := by
        simp only [Writer.persist, h, hch, hin, Bool.not_false, Bool.and_true, ↓reduceIte]
      rw [e]
      refine ⟨rfl, h, rfl, fun ho => ?_, fun ho => nomatch ho.2⟩
      exact absurd ho (List.append_ne_nil_of_right_ne_nil _ (List.cons_ne_nil _ _))

theorem persist_update (w : Writer) (fs : FS) (p : String) (c : List Nat) (h : w.mode = .update) :
    (w.persist fs p c).1.mode = .update ∧
    ((w.persist fs p c).1.writes = 0 ↔ w.writes = 0 ∧ hasChanged fs p c = false) ∧
    (hasChanged fs p c = false → (w.persist fs p c).2 = fs) := by
  cases hch : hasChanged fs p c with
  | false =>
    have e : w.persist fs p c = (w, fs) := by
      simp only [Writer.persist, h, persistIfChanged, hch, Bool.false_eq_true, ↓reduceIte]
    rw [e]
    exact ⟨h, ⟨fun hw => ⟨hw, rfl⟩, fun hw => hw.1⟩, fun _ => rfl⟩
  | true =>
    have e : w.persist fs p c = ({ w with writes := w.writes + 1 }, fs.write p c) := by
      simp only [Writer.persist, h, persistIfChanged, hch, ↓reduceIte]
    rw [e]
    exact ⟨h, ⟨nofun, fun hw => nomatch hw.2⟩, nofun⟩

theorem hasChanged_eq_false (fs : FS) (p : String) (c : List Nat) :
    hasChanged fs p c = false ↔ (fs.get p).map (·.bytes) = some c := by
  unfold hasChanged
  cases fs.get p <;> simp

/-- a file whose bytes are already right is not touched (bytes **and** modification stamp). -/
theorem persist_unchanged (fs : FS) (p : String) (c : List Nat) (f : File)
    (h : fs.get p = some f) (hb : f.bytes = c) : persistIfChanged fs p c = fs := by
  simp [persistIfChanged, hasChanged, h, hb]

theorem get_write_same (fs : FS) (p : String) (c : List Nat) :
    ((fs.write p c).get p).map (·.bytes) = some c := by
  simp [FS.write, FS.get]

/-- after `persist_if_changed(p, c)` the file at `p` holds exactly `c`: for no file, the same bytes,
    other bytes of another length, other bytes of the SAME length. (↔ `has_changed_file2buffer`:
    length + checksum of ALL bytes.) -/
theorem persistIfChanged_result (fs : FS) (p : String) (c : List Nat) :
    ((persistIfChanged fs p c).get p).map (·.bytes) = some c := by
  unfold persistIfChanged
  split
  · exact get_write_same fs p c
  · next h => exact (hasChanged_eq_false fs p c).mp ((Bool.not_eq_true _).mp h)

/-- and nothing else is touched -/
theorem persistIfChanged_other (fs : FS) (p q : String) (c : List Nat) (h : q ≠ p) :
    (persistIfChanged fs p c).get q = fs.get q := by
  unfold persistIfChanged FS.get
  split
  · simp [FS.write, h]
  · rfl

/-- **idempotence of persistence**: persisting the same bytes twice writes at most once. -/
theorem persist_idem (fs : FS) (p : String) (c : List Nat) :
    persistIfChanged (persistIfChanged fs p c) p c = persistIfChanged fs p c := by
  have h := (hasChanged_eq_false _ p c).mpr (persistIfChanged_result fs p c)
  generalize persistIfChanged fs p c = fs' at h ⊢
  simp only [persistIfChanged, h, Bool.false_eq_true, if_false]

/-- The simulation invariant between a check run (never writes, state `fs`) and an update run:
    nothing is outdated so far iff nothing was written so far, and then both see the same files. -/
structure Sim (fs : FS) (sc su : Writer × FS) : Prop where
  checkMode : sc.1.mode = .check
  updateMode : su.1.mode = .update
  checkFs : sc.2 = fs
  checkWrites : sc.1.writes = 0
  iff : sc.1.outdated = [] ↔ su.1.writes = 0
  same : su.1.writes = 0 → su.2 = fs

/-- One `persist` in both runs; the content may be computed from the files each run sees (the
    manifests are edited in place). -/
theorem sim_step {fs : FS} {sc su : Writer × FS} (p : String) (cf : FS → List Nat)
    (h : Sim fs sc su) :
    Sim fs (sc.1.persist sc.2 p (cf sc.2)) (su.1.persist su.2 p (cf su.2)) := by
  obtain ⟨cfs, cmode, cwrites, cout⟩ := persist_check sc.1 sc.2 p (cf sc.2) h.checkMode
  obtain ⟨umode, uwrites, ufs⟩ := persist_update su.1 su.2 p (cf su.2) h.updateMode
  refine { checkMode := cmode, updateMode := umode, checkFs := cfs.trans h.checkFs,
           checkWrites := cwrites.trans h.checkWrites, iff := ?_, same := fun hz => ?_ }
  · -- while nothing has been written both runs see the same files, hence ask the same question
    rw [cout, uwrites, h.iff]
    exact and_congr_right fun h0 => by rw [h.same h0, h.checkFs]
  · rw [ufs (uwrites.mp hz).2]
    exact h.same (uwrites.mp hz).1

theorem sim_steps (b : Build) {fs : FS} {sc su : Writer × FS} (h : Sim fs sc su) :
    Sim fs (stepDiag b sc) (stepDiag b su) ∧
    Sim fs (stepManifests b (stepDiag b sc)) (stepManifests b (stepDiag b su)) ∧
    Sim fs (stepLib b (stepManifests b (stepDiag b sc)))
      (stepLib b (stepManifests b (stepDiag b su))) := by
  have s1 : Sim fs (stepDiag b sc) (stepDiag b su) := by
    unfold stepDiag
    cases b.diag with
    | none => exact h
    | some pc => exact sim_step pc.1 (fun _ => pc.2) h
  -- no type ascription: unifying `stepManifests ..` with the conclusion of `sim_step` before its
  -- arguments are elaborated is slow
  have s2 :=
    sim_step b.sdkManifestPath (fun f => b.sdkEdit ((f.get b.sdkManifestPath).map (·.bytes)))
      (sim_step b.rootPath
        (fun f => b.rootEdit (match f.get b.rootPath with | some x => x.bytes | none => [])) s1)
  exact ⟨s1, s2, sim_step b.libPath (fun _ => b.lib) s2⟩

theorem sim_start (fs : FS) : Sim fs (⟨.check, [], 0⟩, fs) (⟨.update, [], 0⟩, fs) :=
  { checkMode := rfl, updateMode := rfl, checkFs := rfl, checkWrites := rfl,
    iff := ⟨fun _ => rfl, fun _ => rfl⟩, same := fun _ => rfl }

theorem finish_fs (s : Writer × FS) : (finish s).fs = s.2 := by
  unfold finish
  split <;> rfl

theorem finish_writes (s : Writer × FS) : (finish s).writes = s.1.writes := by
  unfold finish
  split <;> rfl

theorem finish_exit (s : Writer × FS) : (finish s).exit = 0 ↔ s.1.verifyOk = true := by
  unfold finish
  split <;> simp [*]

theorem generate_ok (b : Build) (m : Mode) (fs : FS) (h0 : b.errors = 0) (h1 : b.codegenOk = true)
    (h2 : b.libParses = true) :
    generate b m fs = finish (stepLib b (stepManifests b (stepDiag b (⟨m, [], 0⟩, fs)))) := by
  simp only [generate, h0, h1, h2, Nat.lt_irrefl, if_false, Bool.not_true, Bool.false_eq_true]

/-- **`--check` is pure**: whatever the verdict, a check run writes no file. -/
theorem check_pure (b : Build) (fs : FS) :
    (generate b .check fs).fs = fs ∧ (generate b .check fs).writes = 0 := by
  -- wherever `generate` stops, the check run is in simulation with the update run up to there
  obtain ⟨s1, s2, s3⟩ := sim_steps b (sim_start fs)
  unfold generate
  by_cases he : b.errors > 0
  · rw [if_pos he]
    exact ⟨rfl, rfl⟩
  · rw [if_neg he]
    cases b.codegenOk with
    | false => exact ⟨s1.checkFs, s1.checkWrites⟩
    | true =>
      cases b.libParses with
      | false => exact ⟨s2.checkFs, s2.checkWrites⟩
      | true => exact ⟨(finish_fs _).trans s3.checkFs, (finish_writes _).trans s3.checkWrites⟩

/-- **`--check` agrees with update**: for an accepted blueprint, `--check` exits 0 exactly when a
    normal run writes no file — whatever the files on disk are (manifests are edited in place, so
    their expected content is computed from the current content in both modes). -/
theorem check_iff_update_writes_nothing (b : Build) (fs : FS) (h0 : b.errors = 0)
    (h1 : b.codegenOk = true) (h2 : b.libParses = true) :
    (generate b .check fs).exit = 0 ↔ (generate b .update fs).writes = 0 := by
  have s3 := (sim_steps b (sim_start fs)).2.2
  rw [generate_ok b _ fs h0 h1 h2, generate_ok b _ fs h0 h1 h2, finish_exit, finish_writes,
    ← s3.iff]
  simp only [Writer.verifyOk, s3.checkMode, List.isEmpty_iff]

/-- and such a run leaves every file — bytes and modification stamp — as it was. -/
theorem update_nowrite_fs (b : Build) (fs : FS) (h0 : b.errors = 0) (h1 : b.codegenOk = true)
    (h2 : b.libParses = true) (hw : (generate b .update fs).writes = 0) :
    (generate b .update fs).fs = fs := by
  rw [generate_ok b _ fs h0 h1 h2] at hw ⊢
  rw [finish_writes] at hw
  rw [finish_fs]
  exact (sim_steps b (sim_start fs)).2.2.same hw

/-- **cache transparency**: a table that only holds `f k` under `k` answers `f k`, and stays such,
    for every history of previous insertions (none, this project, other projects). -/
theorem cache_transparent {κ ν} [BEq κ] [LawfulBEq κ] (f : κ → ν) (c : List (κ × ν)) (k : κ)
    (hinv : ∀ kv ∈ c, kv.2 = f kv.1) :
    (getOrCompute f c k).1 = f k ∧ ∀ kv ∈ (getOrCompute f c k).2, kv.2 = f kv.1 := by
  unfold getOrCompute
  cases h : c.find? (·.1 == k) with
  | none =>
    refine ⟨rfl, ?_⟩
    intro kv hkv
    simp at hkv
    rcases hkv with hkv | hkv
    · exact hinv kv hkv
    · subst hkv
      rfl
  | some x =>
    obtain ⟨k', v⟩ := x
    have hmem := List.mem_of_find?_eq_some h
    have hk := List.find?_some h
    simp only [beq_iff_eq] at hk
    refine ⟨?_, hinv⟩
    have := hinv (k', v) hmem
    simp only at this hk
    rw [this, hk]

/-- hence any sequence of look-ups returns what a cold cache would return. -/
theorem cache_history_irrelevant {κ ν} [BEq κ] [LawfulBEq κ] (f : κ → ν) (ks : List κ)
    (c : List (κ × ν)) (hinv : ∀ kv ∈ c, kv.2 = f kv.1) (k : κ) :
    (getOrCompute f (ks.foldl (fun c k => (getOrCompute f c k).2) c) k).1 = f k := by
  have : ∀ (ks : List κ) (c : List (κ × ν)), (∀ kv ∈ c, kv.2 = f kv.1) →
      ∀ kv ∈ ks.foldl (fun c k => (getOrCompute f c k).2) c, kv.2 = f kv.1 := by
    intro ks
    induction ks with
    | nil => exact fun c h => by simpa using h
    | cons a ks ih => exact fun c h => ih _ (cache_transparent f c a h).2
  exact (cache_transparent f _ k (this ks c hinv)).1

def exBuildCheck : Build :=
  { errors := 0, diag := some ("d.dot", [9]), codegenOk := true, libParses := true,
    rootPath := "Cargo.toml", rootEdit := fun x => x, sdkManifestPath := "sdk/Cargo.toml",
    sdkEdit := fun _ => [1], libPath := "sdk/src/lib.rs", lib := [2] }
-- only the diagnostics file is missing: `--check` fails and (check_pure) writes nothing
example : (generate exBuildCheck .check
    (FS.ofList [("Cargo.toml", ⟨[], 1⟩), ("sdk/Cargo.toml", ⟨[1], 3⟩), ("sdk/src/lib.rs", ⟨[2], 5⟩)])).exit = 1 := by
  decide +kernel
example : (persistIfChanged (FS.ofList [("a", ⟨[1], 4⟩)]) "a" [1]).get "a" = some ⟨[1], 4⟩ ∧
    (persistIfChanged (FS.ofList [("a", ⟨[1], 4⟩)]) "a" [2]).get "a" = some ⟨[2], 5⟩ := by decide +kernel

/-- **History does not matter for the SDK manifest**: generating into a directory whose manifest was
    written by an earlier generation (of anything) gives the manifest a generation on the original
    document gives. -/
theorem overwrite_absorbs (g1 g2 : GenManifest) (d : Doc) : g2.overwrite (g1.overwrite d) = g2.overwrite d := by
  unfold GenManifest.overwrite
  simp only [setTable_eq, setIn_eq]
  rw [kset_comm_of_present _ "dependencies" "package" (by decide) _ _ (kset_any _ _ _), kset_kset,
    kset_kset]
  congr 1
  funext o
  cases o with
  | none => rfl
  | some t => simp only [tblSet_eq, kset_kset]

theorem overwrite_idem (g : GenManifest) (d : Doc) : g.overwrite (g.overwrite d) = g.overwrite d :=
  overwrite_absorbs g g d

/-- the same for `persist_manifest` as a whole: whatever was generated before (`hist`), starting from
    no file or from the user's own manifest `d0`, the manifest after generating `g` is the one a
    single generation gives. -/
theorem sdkManifest_history_irrelevant (g : GenManifest) (hist : List GenManifest) (d0 : Option Doc) :
    sdkManifest g (some (hist.foldl (fun d h => h.overwrite d) (d0.getD freshDoc))) = sdkManifest g d0 := by
  unfold sdkManifest
  simp only [Option.getD_some]
  induction hist generalizing d0 with
  | nil => rfl
  | cons h hs ih =>
    simp only [List.foldl_cons]
    have := ih (some (h.overwrite (d0.getD freshDoc)))
    simp only [Option.getD_some] at this
    rw [this, overwrite_absorbs]

/-- non-vacuity / what the theorem excludes: the in-place variant keeps a dependency that is no longer
    needed. -/
example :
    let gH : GenManifest := ⟨[("app", [1]), ("helper", [2]), ("pavex", [3])], [2024]⟩
    let gP : GenManifest := ⟨[("app", [1]), ("pavex", [3])], [2024]⟩
    gP.overwrite (gH.overwrite freshDoc) = gP.overwrite freshDoc ∧
    gP.overwriteInPlace (gH.overwriteInPlace freshDoc) ≠ gP.overwriteInPlace freshDoc := by decide +kernel

end Pxv.Gen
