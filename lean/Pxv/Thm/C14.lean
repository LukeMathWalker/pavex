import Pxv.Model.Body
/-!
C14 — a buffered request body never exceeds the configured size limit.
Every theorem is for every limit, every frame list (every chunking), every Content-Length header value.
-/
namespace Pxv.Body

/-- `Limited` + `collect` when the transport does not fail. The error is raised at the first frame
    that crosses the limit, but whether it is raised depends on the total length only. -/
theorem collectLimited_eq {fs : List Frame} (hn : noErr fs = true) (rem : Nat) (acc : List Nat) :
    collectLimited rem fs acc =
      if (dataJoin fs).length > rem then .sizeLimit else .ok (acc ++ dataJoin fs) := by
  induction fs generalizing rem acc with
  | nil => simp [collectLimited, dataJoin]
  | cons f fs ih =>
    cases f with
    | data bs =>
      simp only [collectLimited, dataJoin, List.length_append]
      split
      · rw [if_pos (by omega)]
      · -- direction by direction: `omega` on the `↔` itself would bring in `Classical.choice`
        have : (dataJoin fs).length > rem - bs.length ↔
            bs.length + (dataJoin fs).length > rem := ⟨fun h => by omega, fun h => by omega⟩
        simp only [ih hn, List.append_assoc, this]
    | trailers => exact ih hn rem acc
    | err => cases hn

theorem noErr_of_ok {rem : Nat} {fs : List Frame} {acc b : List Nat}
    (h : collectLimited rem fs acc = .ok b) : noErr fs = true := by
  induction fs generalizing rem acc with
  | nil => rfl
  | cons f fs ih =>
    cases f with
    | data bs =>
      rw [collectLimited] at h
      split at h
      · cases h
      · exact ih h
    | trailers => exact ih h
    | err => cases h

/-- **C14 (1)**: a successful extraction hands over exactly the bytes the client sent, at most
    `N` of them, and only if the transport did not fail. -/
theorem ok_bounded (hdr : Option (List Nat)) (N : Nat) (fs : List Frame) (b : List Nat)
    (h : extractWithLimit hdr N fs = .ok b) :
    b = dataJoin fs ∧ b.length ≤ N ∧ noErr fs = true := by
  have key : collectLimited (min N usizeMax) fs [] = .ok b := by
    unfold extractWithLimit at h
    split at h
    · split at h
      · cases h
      · exact h
    · exact h
  have hn := noErr_of_ok key
  rw [collectLimited_eq hn] at key
  split at key
  · cases key
  · cases key
    exact ⟨rfl, by simp only [List.nil_append]; omega, hn⟩

/-- **C14 (2)**: the application is never handed more than `N` bytes, whatever the outcome. -/
theorem never_more_than_limit (hdr : Option (List Nat)) (N : Nat) (fs : List Frame) :
    match extractWithLimit hdr N fs with
    | .ok b => b.length ≤ N
    | _ => True := by
  split
  · exact (ok_bounded hdr N fs _ ‹_›).2.1
  · trivial

theorem extractWithLimit_eq (hdr : Option (List Nat)) {N : Nat} {fs : List Frame}
    (hN : N ≤ usizeMax) (hn : noErr fs = true) :
    extractWithLimit hdr N fs =
      if (∃ len, contentLength hdr = some len ∧ len > N) ∨ (dataJoin fs).length > N then
        .sizeLimit
      else .ok (dataJoin fs) := by
  rw [extractWithLimit, Nat.min_eq_left hN, collectLimited_eq hn]
  cases contentLength hdr with
  | none => simp
  | some len =>
    by_cases hlen : len > N
    · simp [hlen]
    · simp [hlen]

/-- **C14 (3)**: exact error condition when the transport does not fail: size-limit error iff the
    header announces more than `N` or the body really is longer than `N`; otherwise the body. -/
theorem sizeLimit_iff (hdr : Option (List Nat)) (N : Nat) (fs : List Frame)
    (hN : N ≤ usizeMax) (hn : noErr fs = true) :
    extractWithLimit hdr N fs = .sizeLimit ↔
      ((∃ len, contentLength hdr = some len ∧ len > N) ∨ (dataJoin fs).length > N) := by
  rw [extractWithLimit_eq hdr hN hn]
  split
  next h => exact iff_of_true rfl h
  next h => exact iff_of_false nofun h

/-- **C14 (4)**: and when neither holds the body is returned intact. -/
theorem ok_of_fits (hdr : Option (List Nat)) (N : Nat) (fs : List Frame)
    (hN : N ≤ usizeMax) (hn : noErr fs = true)
    (hcl : ∀ len, contentLength hdr = some len → len ≤ N) (hl : (dataJoin fs).length ≤ N) :
    extractWithLimit hdr N fs = .ok (dataJoin fs) := by
  rw [extractWithLimit_eq hdr hN hn, if_neg]
  rintro (⟨len, h1, h2⟩ | h)
  · exact Nat.not_lt.mpr (hcl len h1) h2
  · omega

/-- **C14 (5)**: the split of the body into transport frames is irrelevant. -/
theorem chunking_irrelevant (hdr : Option (List Nat)) (N : Nat) (fs fs' : List Frame)
    (hN : N ≤ usizeMax) (hn : noErr fs = true) (hn' : noErr fs' = true)
    (hj : dataJoin fs = dataJoin fs') :
    extractWithLimit hdr N fs = extractWithLimit hdr N fs' := by
  rw [extractWithLimit_eq hdr hN hn, extractWithLimit_eq hdr hN hn', hj]

/-- **C14 (6)**: extractors layered on the buffered body (JSON, form) parse at most `N` bytes,
    and exactly the client's bytes. -/
theorem layered_bounded {α} (p : List Nat → α) (hdr : Option (List Nat)) (N : Nat)
    (fs : List Frame) (a : α) (h : extractThen p hdr N fs = some a) :
    a = p (dataJoin fs) ∧ (dataJoin fs).length ≤ N := by
  unfold extractThen at h
  split at h
  · obtain ⟨rfl, hb, -⟩ := ok_bounded hdr N fs _ ‹_›
    cases h
    exact ⟨rfl, hb⟩
  · cases h

/-- A garbage or absent header never *admits* an oversized body. -/
theorem header_cannot_admit (hdr : Option (List Nat)) (N : Nat) (fs : List Frame)
    (hl : (dataJoin fs).length > N) : ∀ b, extractWithLimit hdr N fs ≠ .ok b := by
  intro b h
  obtain ⟨rfl, hb, -⟩ := ok_bounded hdr N fs b h
  omega

-- A body of exactly `N` bytes passes (trailers between its frames); an announced length above `N` is
-- refused, and so is an oversized body behind an unreadable header; a transport error stays one.
example : extractWithLimit (some [43, 51]) 3 [.data [1, 2], .trailers, .data [3]] = .ok [1, 2, 3] := by
  decide +kernel
example : extractWithLimit (some [52]) 3 [.data [1]] = .sizeLimit := by decide +kernel
example : extractWithLimit (some [120]) 3 [.data [1, 2], .data [3, 4]] = .sizeLimit := by
  decide +kernel
example : extractWithLimit none 3 [.data [1], .err] = .bufferErr := by decide +kernel

/-- **C14 for `BufferedBody::extract`**: with `BodySizeLimit::Enabled { max_size: N }` the public
    extractor hands the application at most `N` bytes, identical to what the client sent, or fails —
    whatever headers the request carries (none at all included: an HTTP/2 request may stream a body
    that no header announces) and however the body is framed. -/
theorem extract_enabled_bounded (hdr : Option (List Nat)) (N : Nat) (fs : List Frame) (b : List Nat)
    (h : extract hdr (.enabled N) fs = .ok b) : b = dataJoin fs ∧ b.length ≤ N :=
  ⟨(ok_bounded hdr N fs b h).1, (ok_bounded hdr N fs b h).2.1⟩

-- the seeded variant (no Content-Length ⇒ no limit) hands 3 bytes to an application that
-- allowed 2
example : extractSkipUnannounced none (.enabled 2) [.data [1, 2], .data [3]] = .ok [1, 2, 3] ∧
    extract none (.enabled 2) [.data [1, 2], .data [3]] = .sizeLimit := by decide +kernel

end Pxv.Body
