import Pxv.Model.Rules
import Pxv.Lemmas.Rules
import Pxv.Lemmas.RulesSpec
import Pxv.Model.Generate
import Pxv.Thm.C09
import Pxv.Lemmas.DepGraph
/-!
C08 — blueprints that break a documented rule are rejected, never compiled.

Per rule: a declarative statement of the violation (a constructor of `Violation`; any depth of the dependency
graph, any nesting level: the offending component only has to be *reachable* from a handler, a middleware
or an error observer through injected constructors, each found by the scope lookup) and the theorem
that the decision procedure mirroring pavexc's check reports it. Then: `check` (the pass sequence of
`App::build`) is non-empty, and a non-empty `check` writes nothing (Thm/C09 `reject_atomic`).

Where the real compiler breaks the property the full statement is kept and refuted on a concrete
witness (`…_statement_false`, `…_incomplete`): see known_findings.json.
-/
namespace Pxv.Rules

/-- **completeness of the worklist** (`detect_missing_constructors`, `DependencyGraph::build`):
    whatever is reachable from a root through the successor relation is processed. -/
theorem worklist_complete (succ : Nat → List Nat) (n : Nat) (roots : List Nat) {r c : Nat}
    (hr : r ∈ roots) (hrn : r < n) (h : ReachN succ n r c) : c ∈ closure succ n roots :=
  mem_closure_iff.2 ⟨r, hr, hrn, h⟩

/-- **completeness of `find_cycles`** (DFS with a visited set and a stack): if the graph has a cycle —
    of any length, anywhere — at least one cycle is reported. -/
theorem dfs_finds_a_cycle (adj : List (List Nat)) (h : HasCycle adj) : findCycles adj ≠ [] :=
  findCycles_complete adj h

/-- **soundness of the worklist**: it processes nothing but nodes reachable from a root. -/
theorem worklist_sound (succ : Nat → List Nat) (n : Nat) (roots : List Nat) {c : Nat}
    (h : c ∈ closure succ n roots) : c < n ∧ ∃ r ∈ roots, ReachN succ n r c :=
  have ⟨r, hr, hrn, hc⟩ := mem_closure_iff.1 h
  ⟨hc.lt hrn, r, hr, hc⟩

/-- **soundness of `find_cycles`**: every reported list is a closed walk of the graph (non-empty,
    consecutive nodes joined by edges, the last one pointing back at the first). -/
theorem dfs_reports_only_cycles (adj : List (List Nat)) : ∀ c ∈ findCycles adj, IsCycle adj c :=
  findCycles_sound adj

/-- **nearest enclosing scope**: the lookup walks the visible scopes (`anc`: the scope itself, its
    parent, …, the root — nearest first) and answers with the first registration it meets. -/
theorem scope_lookup_first_visible (db : DB) (s t : Nat) :
    db.lookup s t = (db.anc s).findSome? (fun a => db.ctorIn a t) := lookup_eq_findSome db s t

/-- **siblings are invisible**: whatever the lookup finds is a constructor of the requested type
    registered against the scope itself or one of its ancestors. -/
theorem scope_lookup_visible_only {db : DB} {s t c : Nat} (h : db.lookup s t = some c) :
    c < db.n ∧ (db.comp c).kind = .ctor ∧ (db.comp c).out = t ∧ (db.comp c).scope ∈ db.anc s :=
  lookup_some h

/-- a registration in a nearer scope wins over one further up. -/
theorem scope_lookup_nearest_wins {db : DB} {s t c : Nat} (h : db.lookup s t = some c) :
    ∃ l1 l2, db.anc s = l1 ++ (db.comp c).scope :: l2 ∧ ∀ a ∈ l1, db.ctorIn a t = none :=
  lookup_nearest h

/-- nothing found ⇔ no visible scope has a registration for the type. -/
theorem scope_lookup_none_iff (db : DB) (s t : Nat) :
    db.lookup s t = none ↔ ∀ a ∈ db.anc s, db.ctorIn a t = none := lookup_none_iff db s t

/-- in a well-formed scope tree the visible scopes are exactly the chain of enclosing blueprints. -/
theorem scope_visible_iff_enclosing (db : DB) (hwf : db.WFScopes) (s a : Nat) :
    a ∈ db.anc s ↔ Anc db a s := anc_spec db hwf s a

/-- **a registration in a blueprint that does not enclose the consumer is never used**: siblings,
    children and cousins are invisible (well-formed scope tree). -/
theorem scope_not_enclosing_invisible (db : DB) (hwf : db.WFScopes) {s t c : Nat}
    (h : db.lookup s t = some c) : Anc db (db.comp c).scope s :=
  have ⟨_, _, _, hvisible⟩ := lookup_some h
  (anc_spec db hwf s _).mp hvisible

/-- … so a type whose constructors are all registered against blueprints that do not enclose `s`
    (e.g. only against a sibling) has no constructor in `s`. -/
theorem scope_only_elsewhere_is_missing (db : DB) (hwf : db.WFScopes) {s t : Nat}
    (h : ∀ j, j < db.n → (db.comp j).kind = .ctor → (db.comp j).out = t → ¬ Anc db (db.comp j).scope s) :
    db.lookup s t = none :=
  Option.eq_none_iff_forall_ne_some.2 fun c hl =>
    have ⟨hlt, hkind, hout, _⟩ := lookup_some hl
    h c hlt hkind hout (scope_not_enclosing_invisible db hwf hl)

/-- **the worklist of `detect_missing_constructors` reaches every component** that a handler, a
    middleware or an error observer needs, at any depth. -/
theorem analysis_reaches_every_needed_component {db : DB} {c : Nat} (h : db.Reachable c) : c ∈ db.reach :=
  mem_reach.2 h

/-- **missing constructor**: input `k` of a reachable component `c` has a type for which no visible
    scope (the component's blueprint or an enclosing one) holds a constructor ⇒ reported. -/
theorem missing_complete (db : DB) {c k : Nat} {x : Inp} (hr : db.Reachable c)
    (hx : (db.comp c).ins[k]? = some x) (hnone : db.lookup (db.comp c).scope x.ty = none) :
    ⟨.missing, c, k⟩ ∈ db.detectMissing :=
  mem_perInput.2 ⟨c, mem_reach.2 hr, x, k, hx, by simp [hnone]⟩

/-- the same, spelled out with the scope tree: no constructor for the type in any visible scope. -/
theorem missing_complete' (db : DB) {c k : Nat} {x : Inp} (hr : db.Reachable c)
    (hx : (db.comp c).ins[k]? = some x)
    (hnone : ∀ a ∈ db.anc (db.comp c).scope, ∀ j, j < db.n → (db.comp j).kind = .ctor →
      (db.comp j).out = x.ty → (db.comp j).scope ≠ a) :
    ⟨.missing, c, k⟩ ∈ db.detectMissing :=
  missing_complete db hr hx <| (lookup_none_iff ..).2 fun a ha =>
    Option.eq_none_iff_forall_ne_some.2 fun j h =>
      have ⟨hj, hkind, hscope, hout⟩ := ctorIn_some h
      hnone a ha j hj hkind hout hscope

/-- and nothing else is reported as missing: the diagnostic is exact. -/
theorem missing_sound (db : DB) {c k : Nat} (h : ⟨.missing, c, k⟩ ∈ db.detectMissing) :
    db.Reachable c ∧ ∃ x, (db.comp c).ins[k]? = some x ∧ db.lookup (db.comp c).scope x.ty = none := by
  obtain ⟨i, hi, x, k', hx, hf⟩ := mem_perInput.1 h
  dsimp only at hf
  -- of what `missingAt` may say about an input only the first answer is a `missing` diagnostic
  cases hl : db.lookup (db.comp i).scope x.ty with
  | none =>
    simp only [hl] at hf
    cases hf
    exact ⟨mem_reach.1 hi, x, hx, hl⟩
  | some j =>
    simp only [hl] at hf
    split at hf
    · -- `&mut`: by the lifecycle of `j`, a diagnostic of another kind or none
      split at hf
      · cases hf
      · cases hf
      · split at hf <;> cases hf
    · cases hf

/-! ## Rules: `&mut` injection of a singleton / a transient / a clone-if-necessary request-scoped value -/

theorem mutSingleton_complete (db : DB) {c k j : Nat} {x : Inp} (hr : db.Reachable c)
    (hx : (db.comp c).ins[k]? = some x) (hm : x.mode = .mut)
    (hj : db.lookup (db.comp c).scope x.ty = some j) (hl : (db.comp j).life = .singleton) :
    ⟨.mutSingleton, c, k⟩ ∈ db.detectMissing :=
  mem_perInput.2 ⟨c, mem_reach.2 hr, x, k, hx, by simp [hj, hm, hl]⟩

theorem mutTransient_complete (db : DB) {c k j : Nat} {x : Inp} (hr : db.Reachable c)
    (hx : (db.comp c).ins[k]? = some x) (hm : x.mode = .mut)
    (hj : db.lookup (db.comp c).scope x.ty = some j) (hl : (db.comp j).life = .transient) :
    ⟨.mutTransient, c, k⟩ ∈ db.detectMissing :=
  mem_perInput.2 ⟨c, mem_reach.2 hr, x, k, hx, by simp [hj, hm, hl]⟩

theorem mutCloneable_complete (db : DB) {c k j : Nat} {x : Inp} (hr : db.Reachable c)
    (hx : (db.comp c).ins[k]? = some x) (hm : x.mode = .mut)
    (hj : db.lookup (db.comp c).scope x.ty = some j) (hl : (db.comp j).life = .request)
    (hc : (db.comp j).cloneIfNec = true) :
    ⟨.mutCloneable, c, k⟩ ∈ db.detectMissing :=
  mem_perInput.2 ⟨c, mem_reach.2 hr, x, k, hx, by simp [hj, hm, hl, hc]⟩

/-- **`&mut` input**: any `&mut` input on a constructor (and on a wrapping middleware / an error
    observer) ⇒ reported. -/
theorem mutInput_complete (db : DB) {c k : Nat} {x : Inp} (hc : c < db.n)
    (hk : (db.comp c).kind.noMutInputs = true) (hx : (db.comp c).ins[k]? = some x) (hm : x.mode = .mut) :
    ∃ k', ⟨.mutInput, c, k'⟩ ∈ db.mutInputs := by
  have hsome : ((db.comp c).ins.zipIdx.find? (fun (x, _) => x.mode == .mut)).isSome = true :=
    List.find?_isSome.2 ⟨(x, k), List.mem_zipIdx_iff_getElem?.2 hx, by simp [hm]⟩
  obtain ⟨⟨y, k'⟩, hy⟩ := Option.isSome_iff_exists.1 hsome
  exact ⟨k', List.mem_filterMap.2 ⟨c, List.mem_range.2 hc, by simp [hk, hy]⟩⟩

/-- **clone-if-necessary** on a constructor whose type is not `Clone` ⇒ reported. -/
theorem cloneNotClone_complete (db : DB) {c : Nat} (hc : c < db.n) (hk : (db.comp c).kind = .ctor)
    (hcl : (db.comp c).cloneIfNec = true) (hty : (db.ty (db.comp c).out).clone = false) :
    ⟨.cloneNotClone, c, (db.comp c).out⟩ ∈ db.cloneNotClone :=
  List.mem_filterMap.2 ⟨c, List.mem_range.2 hc, by simp [hk, hcl, hty]⟩

/-- **cycles**: a reachable component that (transitively, through ≥ 1 injections) needs itself —
    a cycle of length 1, 2, 3, … anywhere below a handler/middleware/observer — is reported. -/
theorem cycles_complete (db : DB) {c : Nat} (hr : db.Reachable c) (hc : PathS db.deps c c) :
    db.cycles ≠ [] :=
  (cycles_ne_nil_iff db).2 ⟨c, hr, hc⟩

/-- and only then: a reported cycle is a reachable component that needs itself. -/
theorem cycles_sound (db : DB) (h : db.cycles ≠ []) : ∃ c, db.Reachable c ∧ PathS db.deps c c :=
  (cycles_ne_nil_iff db).1 h

/-- **singleton → request-scoped** (after the fix): a singleton constructor `s` with a chain
    `s → t₁ → … → tₖ` of transient constructors (k ≥ 0) whose last element takes a request-scoped
    type `r` ⇒ reported, with exactly that pair. -/
theorem singletonDeps_complete (db : DB) {s i r : Nat} (hs : s < db.n)
    (hl : (db.comp s).life = .singleton) (hk : (db.comp s).kind = .ctor)
    (hchain : db.ThroughTransients s i) (hr : r ∈ db.deps i) (hrl : (db.comp r).life = .request) :
    ⟨.singletonDep, s, r⟩ ∈ db.singletonDeps :=
  mem_singletonDeps_iff.2 ⟨hs, hl, hk, i, hchain, hr, hrl⟩

/-- and only then: every report names a singleton constructor and a request-scoped constructor it
    reaches through transient constructors only. -/
theorem singletonDeps_sound (db : DB) {s r : Nat} (h : ⟨.singletonDep, s, r⟩ ∈ db.singletonDeps) :
    s < db.n ∧ (db.comp s).life = .singleton ∧ (db.comp s).kind = .ctor ∧
    ∃ i, db.ThroughTransients s i ∧ r ∈ db.deps i ∧ (db.comp r).life = .request :=
  mem_singletonDeps_iff.1 h

/-- the check as it was before the fix reports direct dependencies … -/
theorem singletonDepsDirect_direct (db : DB) {s r : Nat} (hs : s < db.n)
    (hl : (db.comp s).life = .singleton) (hk : (db.comp s).kind = .ctor)
    (hr : r ∈ db.deps s) (hrl : (db.comp r).life = .request) :
    ⟨.singletonDep, s, r⟩ ∈ db.singletonDepsDirect :=
  List.mem_flatMap.2 ⟨s, mem_singletons.2 ⟨hs, hl, hk⟩,
    List.mem_map.2 ⟨r, mem_requestDeps.2 ⟨hr, hrl⟩, rfl⟩⟩

/-- … and only those: the witness of the finding (request-scoped `R`, transient `T(&R)`,
    singleton `S(T)`, handler `h(&S)`). -/
def witnessW1 : DB :=
  { parent := [0], tys := [defaultTy, defaultTy, defaultTy],
    comps := [⟨.ctor, 0, 0, .request, false, [], false, 0⟩,
              ⟨.ctor, 0, 1, .transient, false, [⟨0, .ref⟩], false, 1⟩,
              ⟨.ctor, 0, 2, .singleton, false, [⟨1, .val⟩], false, 2⟩,
              ⟨.handler, 0, 0, .request, false, [⟨2, .ref⟩], false, 3⟩],
    routes := [⟨3, [.lit 0], [0], false⟩], pparams := [] }

theorem singletonDepsDirect_incomplete :
    witnessW1.singletonDepsDirect = [] ∧ witnessW1.singletonDeps = [⟨.singletonDep, 2, 0⟩] ∧
    witnessW1.check = [⟨.singletonDep, 2, 0⟩] := by decide +kernel

/-- **singleton ambiguity**: two different blueprints `s₁ ≠ s₂` (siblings, or one nested in the other —
    any two scopes) both hold a singleton constructor for type `t` ⇒ reported for `t`. -/
theorem singletonAmbiguity_complete (db : DB) {t s1 s2 c1 c2 : Nat} (ht : t < db.tys.length)
    (h1 : s1 ∈ db.scopes) (h2 : s2 ∈ db.scopes) (hne : s1 ≠ s2)
    (hc1 : db.ctorIn s1 t = some c1) (hl1 : (db.comp c1).life = .singleton)
    (hc2 : db.ctorIn s2 t = some c2) (hl2 : (db.comp c2).life = .singleton) :
    ∃ d ∈ db.singletonAmbiguity, d.a = t ∧ (d.kind = .singletonOnce ∨ d.kind = .singletonMulti) := by
  have hlen : 1 < (db.singletonRegs t).length :=
    two_le_length_filterMap h1 h2 hne (by simp [hc1, hl1]) (by simp [hc2, hl2])
  refine ⟨_, List.mem_filterMap.2 ⟨t, List.mem_range.2 ht, if_pos hlen⟩, rfl, ?_⟩
  dsimp only
  split <;> simp

/-- **thread safety**: a singleton injected into a reachable component that runs at request time
    (anything but a singleton constructor) whose type is not `Send` ⇒ reported. -/
theorem notSend_complete (db : DB) {i c : Nat} (hi : db.Reachable i)
    (hrt : ¬ ((db.comp i).kind = .ctor ∧ (db.comp i).life = .singleton))
    (hc : c ∈ db.deps i) (hl : (db.comp c).life = .singleton)
    (hs : (db.ty (db.comp c).out).send = false) :
    ⟨.notSend, c, (db.comp c).out⟩ ∈ db.threadSafety :=
  List.mem_flatMap.2 ⟨c, mem_runtimeSingletons hi hrt hc hl, by simp [hs]⟩

/-- … or not `Sync`. -/
theorem notSync_complete (db : DB) {i c : Nat} (hi : db.Reachable i)
    (hrt : ¬ ((db.comp i).kind = .ctor ∧ (db.comp i).life = .singleton))
    (hc : c ∈ db.deps i) (hl : (db.comp c).life = .singleton)
    (hs : (db.ty (db.comp c).out).sync = false) :
    ⟨.notSync, c, (db.comp c).out⟩ ∈ db.threadSafety :=
  List.mem_flatMap.2 ⟨c, mem_runtimeSingletons hi hrt hc hl, by simp [hs]⟩

/-- **singleton by value**: a singleton taken by value at request time without being `Copy` or
    clone-if-necessary ⇒ reported. -/
theorem singletonByValue_complete (db : DB) {i k c : Nat} {x : Inp} (hi : db.Reachable i)
    (hrt : ¬ ((db.comp i).kind = .ctor ∧ (db.comp i).life = .singleton))
    (hx : (db.comp i).ins[k]? = some x) (hm : x.mode = .val)
    (hc : db.lookup (db.comp i).scope x.ty = some c) (hl : (db.comp c).life = .singleton)
    (hcopy : (db.ty x.ty).copy = false) (hcl : (db.comp c).cloneIfNec = false) :
    ⟨.singletonByValue, i, k⟩ ∈ db.singletonByValue :=
  mem_perInput.2 ⟨i, mem_requestTime hi hrt, x, k, hx, by simp [hc, hm, hl, hcopy, hcl]⟩

/-- **observer → fallible**: the observer needs, at any depth, a request-scoped or transient
    constructor that can fail ⇒ reported for that observer. -/
theorem observerFallible_complete (db : DB) {o c : Nat} (ho : o < db.n)
    (hk : (db.comp o).kind = .observer) (hn : ObsNeeds db o c) (hne : c ≠ o)
    (hl : (db.comp c).life ≠ .singleton) (hf : (db.comp c).fallible = true) :
    ∃ c', ⟨.observerFallible, o, c'⟩ ∈ db.observerFallible := by
  have hsome : ((closure (db.obsSucc o) db.n [o]).find?
      (fun c => c != o && (db.comp c).life != .singleton && (db.comp c).fallible)).isSome = true :=
    List.find?_isSome.2
      ⟨c, mem_closure_iff.2 ⟨o, List.mem_singleton_self o, ho, hn.reach⟩, by simp [hne, hl, hf]⟩
  obtain ⟨c', hc'⟩ := Option.isSome_iff_exists.1 hsome
  exact ⟨c', List.mem_filterMap.2
    ⟨o, by simp [DB.observers, List.mem_filter, List.mem_range, ho, hk], by simp [hc']⟩⟩

/-- templates that matchit refuses to hold together (equal specificity) really do overlap. -/
theorem shapeConflict_overlap (p q : List Seg) (h : shapeConflict p q = true) : Overlap p q := by
  fun_induction shapeConflict p q  -- the cases are the equations of `shapeConflict`, in their order
  case case1 => exact ⟨[], rfl, rfl⟩
  case case2 a p b q ih =>
    simp only [Bool.and_eq_true, beq_iff_eq] at h
    obtain ⟨req, h1, h2⟩ := ih h.2
    exact ⟨a :: req, by simp [matchPath, h1], by simp [matchPath, h.1, h2]⟩
  case case3 ih =>
    obtain ⟨req, h1, h2⟩ := ih h
    exact ⟨0 :: req, h1, h2⟩
  case case4 => exact ⟨[0], rfl, rfl⟩
  case case5 q => exact ⟨0 :: inst q, rfl, matchPath_inst q⟩
  case case6 p _ _ => exact ⟨0 :: inst p, matchPath_inst p, rfl⟩
  case case7 => cases h

/-- **same template, common method** (same method + path; overlapping method sets; ANY vs specific;
    non-standard methods included after the fix) ⇒ a method conflict is reported. -/
theorem methodConflict_complete (db : DB) {k1 k2 m : Nat} {r1 r2 : Route} (hlt : k1 < k2)
    (h1 : db.routes[k1]? = some r1) (h2 : db.routes[k2]? = some r2) (hp : r1.path = r2.path)
    (hm1 : r1.accepts m = true) (hm2 : r2.accepts m = true) : db.methodConflicts ≠ [] := by
  have hr1 : r1 ∈ db.routes := List.mem_of_getElem? h1
  have hg1 : r1 ∈ db.group r1.path := by simp [DB.group, List.mem_filter, hr1]
  have hg2 : r2 ∈ db.group r1.path := by
    simp [DB.group, List.mem_filter, List.mem_of_getElem? h2, hp]
  -- a method that is examined and that both accept: `m` if some guard of the group names it; if none
  -- does, both routes accept it as `MethodGuard::Any`, and then they accept the well-known method 0 as
  -- well
  obtain ⟨m', hm', ha1, ha2⟩ :
      ∃ m' ∈ (wellKnownMethods ++ (db.group r1.path).flatMap (·.methods)).eraseDups,
        r1.accepts m' = true ∧ r2.accepts m' = true := by
    by_cases hmM : m ∈ (db.group r1.path).flatMap (·.methods)
    · exact ⟨m, by simp [hmM], hm1, hm2⟩
    · have hany : ∀ r ∈ db.group r1.path, r.accepts m = true → r.accepts 0 = true := by
        intro r hr ha
        have : m ∉ r.methods := fun h => hmM (List.mem_flatMap.2 ⟨r, hr, h⟩)
        simp_all [Route.accepts]
      exact ⟨0, by simp [wellKnownMethods], hany r1 hg1 hm1, hany r2 hg2 hm2⟩
  obtain ⟨kp, hkp⟩ := List.mem_iff_getElem?.1 (mem_paths hr1)
  refine List.ne_nil_of_mem (a := ⟨.routeMethodConflict, kp, m'⟩) (List.mem_flatMap.2
    ⟨(r1.path, kp), List.mem_zipIdx_iff_getElem?.2 hkp, List.mem_filterMap.2 ⟨m', hm', if_pos ?_⟩⟩)
  rw [DB.group, List.filter_filter]
  exact two_le_length_filter hlt h1 h2 (by simp [ha1]) (by simp [ha2, hp])

/-- **different templates of equal specificity** (same shape once parameter names are erased, or a
    catch-all facing a parameter/catch-all) ⇒ a path conflict is reported for the later one. -/
theorem pathConflict_complete (db : DB) {k1 k2 : Nat} {r1 r2 : Route} (hlt : k1 < k2)
    (h1 : db.routes[k1]? = some r1) (h2 : db.routes[k2]? = some r2) (hp : r1.path ≠ r2.path)
    (hs : shapeConflict r1.path r2.path = true) : ⟨.routePathConflict, k2, 0⟩ ∈ db.pathConflicts := by
  have hbefore : r1 ∈ db.routes.take k2 :=
    List.mem_of_getElem? (i := k1) (by rw [List.getElem?_take, if_pos hlt, h1])
  have hany : (db.routes.take k2).any
      (fun r' => r'.path != r2.path && shapeConflict r'.path r2.path) = true :=
    List.any_eq_true.2 ⟨r1, hbefore, by simp [hp, hs]⟩
  exact List.mem_filterMap.2 ⟨(r2, k2), List.mem_zipIdx_iff_getElem?.2 h2, by simp [hany]⟩

/-- both kinds of conflict stop the compiler in the first stage. -/
theorem routeConflict_stage1 (db : DB) {k1 k2 : Nat} {r1 r2 : Route} (hlt : k1 < k2)
    (h1 : db.routes[k1]? = some r1) (h2 : db.routes[k2]? = some r2)
    (hm : ∃ m, r1.accepts m = true ∧ r2.accepts m = true)
    (hs : r1.path = r2.path ∨ shapeConflict r1.path r2.path = true) : db.stage1 ≠ [] := by
  rw [Ne, stage1_eq_nil_iff]
  intro ⟨em, ep⟩
  obtain ⟨m, hm1, hm2⟩ := hm
  by_cases hp : r1.path = r2.path
  · exact methodConflict_complete db hlt h1 h2 hp hm1 hm2 em
  · exact List.ne_nil_of_mem (pathConflict_complete db hlt h1 h2 hp (hs.resolve_left hp)) ep

/-- the full statement ("two routes that can match the same request are refused") for the model. -/
def routes_statement : Prop :=
  ∀ (db : DB) (k1 k2 : Nat) (r1 r2 : Route), k1 < k2 → db.routes[k1]? = some r1 → db.routes[k2]? = some r2 →
    RoutesOverlap r1 r2 → db.check ≠ []

/-- `GET /a/{x}` and `GET /a/b` (literals 0 = "a", 1 = "b") -/
def witnessW2 : DB :=
  { parent := [0], tys := [],
    comps := [⟨.handler, 0, 0, .request, false, [], false, 0⟩, ⟨.handler, 0, 0, .request, false, [], false, 1⟩],
    routes := [⟨0, [.lit 0, .param 0], [0], false⟩, ⟨1, [.lit 0, .lit 1], [0], false⟩], pparams := [] }

/-- **[finding, known]** the statement is false for the faithful model: templates of different
    specificity are accepted although the request `/a/b` matches both (matchit ranks them). -/
theorem routes_statement_false : ¬ routes_statement := by
  intro h
  have := h witnessW2 0 1 ⟨0, [.lit 0, .param 0], [0], false⟩ ⟨1, [.lit 0, .lit 1], [0], false⟩
    (by decide) (by decide) (by decide) ⟨⟨0, by decide, by decide⟩, ⟨[0, 1], by decide, by decide⟩⟩
  exact this (by decide +kernel)

/-- the part of the statement that holds: overlaps of equal specificity are refused. -/
theorem routes_partial (db : DB) {k1 k2 : Nat} {r1 r2 : Route} (hlt : k1 < k2)
    (h1 : db.routes[k1]? = some r1) (h2 : db.routes[k2]? = some r2)
    (hm : ∃ m, r1.accepts m = true ∧ r2.accepts m = true)
    (hs : r1.path = r2.path ∨ shapeConflict r1.path r2.path = true) :
    RoutesOverlap r1 r2 ∧ db.stage1 ≠ [] := by
  refine ⟨⟨hm, ?_⟩, routeConflict_stage1 db hlt h1 h2 hm hs⟩
  rcases hs with hs | hs
  · exact ⟨inst r1.path, matchPath_inst _, hs ▸ matchPath_inst _⟩
  · exact shapeConflict_overlap _ _ hs

/-- before the fix, `QUERY /x` registered twice (method 9 = the first non-standard one) went through. -/
def witnessW3 : DB :=
  { parent := [0], tys := [],
    comps := [⟨.handler, 0, 0, .request, false, [], false, 0⟩, ⟨.handler, 0, 0, .request, false, [], false, 1⟩],
    routes := [⟨0, [.lit 0], [9], false⟩, ⟨1, [.lit 0], [9], false⟩], pparams := [] }

theorem methodConflictsStd_incomplete :
    witnessW3.methodConflictsStd = [] ∧ witnessW3.methodConflicts = [⟨.routeMethodConflict, 0, 9⟩] := by
  decide +kernel

/-- two catch-all-method routes (`allow(any_method, non_standard_methods)`) on one path and no method-specific route
    there: no guard names a method, the "named methods only" variant examines nothing and lets both through; the real
    rule reports every well-known method. -/
def witnessAnyAny : DB :=
  { parent := [0], tys := [],
    comps := [⟨.handler, 0, 0, .request, false, [], false, 0⟩, ⟨.handler, 0, 0, .request, false, [], false, 1⟩],
    routes := [⟨0, [.lit 0], [], true⟩, ⟨1, [.lit 0], [], true⟩], pparams := [] }

theorem methodConflictsNamed_incomplete :
    witnessAnyAny.methodConflictsNamed = [] ∧ witnessAnyAny.methodConflicts.length = 9 := by
  decide +kernel

/-- **path parameters** (after the fix: every `PathParams<T>` the handler needs, at any depth): a
    field of `T` that names no parameter of the route template ⇒ reported for that route. -/
theorem pathParams_complete (db : DB) {k c f : Nat} {r : Route} {pp : PathParams}
    (hr : db.routes[k]? = some r) (hh : r.comp < db.n) (hpp : pp ∈ db.pparams)
    (hc : db.Needs r.comp c) (hk : (db.comp c).kind = .ctor) (ho : (db.comp c).out = pp.ty)
    (hf : f ∈ pp.fields) (hnot : f ∉ paramNames r.path) :
    ⟨.pathParam, k, pp.ty⟩ ∈ db.pathParams := by
  refine List.mem_flatMap.2
    ⟨(r, k), List.mem_zipIdx_iff_getElem?.2 hr, List.mem_filterMap.2 ⟨pp, hpp, ?_⟩⟩
  have hneeded : c ∈ closure db.deps db.n [r.comp] :=
    mem_closure_iff.2 ⟨r.comp, List.mem_singleton_self _, hh, hc⟩
  have h1 : (closure db.deps db.n [r.comp]).any
      (fun c => decide ((db.comp c).kind = .ctor) && decide ((db.comp c).out = pp.ty)) = true :=
    List.any_eq_true.2 ⟨c, hneeded, by simp [hk, ho]⟩
  simpa [h1] using ⟨f, hf, hnot⟩

/-- The documented rules, as violations of a component database: one constructor per rule of the
    property, each at any depth of the dependency graph (`Reachable`, `Needs`, `ThroughTransients`,
    `ObsNeeds`) and any nesting level (all lookups go through the scope tree). -/
inductive Violation (db : DB) : Prop
  /-- an injected type with no constructor in scope -/
  | missing {c k : Nat} {x : Inp} : db.Reachable c → (db.comp c).ins[k]? = some x →
      db.lookup (db.comp c).scope x.ty = none → Violation db
  /-- a dependency cycle -/
  | cycle {c : Nat} : db.Reachable c → PathS db.deps c c → Violation db
  /-- a singleton that depends on a request-scoped type, directly or through transient constructors -/
  | singletonDep {s i r : Nat} : s < db.n → (db.comp s).life = .singleton → (db.comp s).kind = .ctor →
      db.ThroughTransients s i → r ∈ db.deps i → (db.comp r).life = .request → Violation db
  /-- a singleton with constructors registered in two different blueprints -/
  | singletonTwice {t s1 s2 c1 c2 : Nat} : t < db.tys.length → s1 ∈ db.scopes → s2 ∈ db.scopes → s1 ≠ s2 →
      db.ctorIn s1 t = some c1 → (db.comp c1).life = .singleton →
      db.ctorIn s2 t = some c2 → (db.comp c2).life = .singleton → Violation db
  /-- a singleton needed at request time that is not `Send` or not `Sync` -/
  | notSendSync {i c : Nat} : db.Reachable i → ¬ ((db.comp i).kind = .ctor ∧ (db.comp i).life = .singleton) →
      c ∈ db.deps i → (db.comp c).life = .singleton →
      ((db.ty (db.comp c).out).send = false ∨ (db.ty (db.comp c).out).sync = false) → Violation db
  /-- a singleton taken by value at request time without being `Copy` or clone-if-necessary -/
  | singletonByValue {i k c : Nat} {x : Inp} : db.Reachable i →
      ¬ ((db.comp i).kind = .ctor ∧ (db.comp i).life = .singleton) →
      (db.comp i).ins[k]? = some x → x.mode = .val → db.lookup (db.comp i).scope x.ty = some c →
      (db.comp c).life = .singleton → (db.ty x.ty).copy = false → (db.comp c).cloneIfNec = false → Violation db
  /-- `&mut` injection of a singleton, a transient, or a clone-if-necessary request-scoped value -/
  | mutInjection {c k j : Nat} {x : Inp} : db.Reachable c → (db.comp c).ins[k]? = some x → x.mode = .mut →
      db.lookup (db.comp c).scope x.ty = some j →
      ((db.comp j).life = .singleton ∨ (db.comp j).life = .transient ∨
        ((db.comp j).life = .request ∧ (db.comp j).cloneIfNec = true)) → Violation db
  /-- any `&mut` input on a constructor -/
  | mutOnConstructor {c k : Nat} {x : Inp} : c < db.n → (db.comp c).kind = .ctor →
      (db.comp c).ins[k]? = some x → x.mode = .mut → Violation db
  /-- clone-if-necessary on a type that is not `Clone` -/
  | cloneNotClone {c : Nat} : c < db.n → (db.comp c).kind = .ctor → (db.comp c).cloneIfNec = true →
      (db.ty (db.comp c).out).clone = false → Violation db
  /-- an error observer that (transitively) needs a fallible constructor -/
  | observerFallible {o c : Nat} : o < db.n → (db.comp o).kind = .observer → ObsNeeds db o c → c ≠ o →
      (db.comp c).life ≠ .singleton → (db.comp c).fallible = true → Violation db
  /-- two routes that can match the same request, with templates of equal specificity
      (the remaining case is the known finding, `routes_statement_false`) -/
  | routes {k1 k2 : Nat} {r1 r2 : Route} : k1 < k2 → db.routes[k1]? = some r1 → db.routes[k2]? = some r2 →
      (∃ m, r1.accepts m = true ∧ r2.accepts m = true) →
      (r1.path = r2.path ∨ shapeConflict r1.path r2.path = true) → Violation db
  /-- a path-parameter struct field that is not in the route template -/
  | pathParam {k c f : Nat} {r : Route} {pp : PathParams} : db.routes[k]? = some r → r.comp < db.n →
      pp ∈ db.pparams → db.Needs r.comp c → (db.comp c).kind = .ctor → (db.comp c).out = pp.ty →
      f ∈ pp.fields → f ∉ paramNames r.path → Violation db

/-- **soundness of detection, all rules**: a violated rule makes `App::build` report an error. -/
theorem violation_detected (db : DB) (h : Violation db) : db.check ≠ [] := by
  intro e
  obtain ⟨eStage1, e2, e3, e4⟩ := (check_eq_nil_iff db).1 e
  have eMutInputs : db.mutInputs = [] := e2
  obtain ⟨eMissing, eAmbiguity, eSingletonDeps, eObserver, eClone⟩ := (stage3_eq_nil_iff db).1 e3
  obtain ⟨eCycles, ePathParams, eThreadSafety, eByValue⟩ := (stage4_eq_nil_iff db).1 e4
  cases h with
  | missing hr hx hn => exact List.ne_nil_of_mem (missing_complete db hr hx hn) eMissing
  | cycle hr hc => exact cycles_complete db hr hc eCycles
  | singletonDep hs hl hk hch hr hrl =>
    exact List.ne_nil_of_mem (singletonDeps_complete db hs hl hk hch hr hrl) eSingletonDeps
  | singletonTwice ht h1 h2 hne hc1 hl1 hc2 hl2 =>
    obtain ⟨d, hd, _⟩ := singletonAmbiguity_complete db ht h1 h2 hne hc1 hl1 hc2 hl2
    exact List.ne_nil_of_mem hd eAmbiguity
  | notSendSync hi hrt hc hl hs =>
    rcases hs with hs | hs
    · exact List.ne_nil_of_mem (notSend_complete db hi hrt hc hl hs) eThreadSafety
    · exact List.ne_nil_of_mem (notSync_complete db hi hrt hc hl hs) eThreadSafety
  | singletonByValue hi hrt hx hm hc hl hcopy hcl =>
    exact List.ne_nil_of_mem (singletonByValue_complete db hi hrt hx hm hc hl hcopy hcl) eByValue
  | mutInjection hr hx hm hj hl =>
    rcases hl with hl | hl | ⟨hl, hc⟩
    · exact List.ne_nil_of_mem (mutSingleton_complete db hr hx hm hj hl) eMissing
    · exact List.ne_nil_of_mem (mutTransient_complete db hr hx hm hj hl) eMissing
    · exact List.ne_nil_of_mem (mutCloneable_complete db hr hx hm hj hl hc) eMissing
  | mutOnConstructor hc hk hx hm =>
    obtain ⟨k', hk'⟩ := mutInput_complete db hc (by simp [hk, Kind.noMutInputs]) hx hm
    exact List.ne_nil_of_mem hk' eMutInputs
  | cloneNotClone hc hk hcl hty =>
    exact List.ne_nil_of_mem (cloneNotClone_complete db hc hk hcl hty) eClone
  | observerFallible ho hk hn hne hl hf =>
    obtain ⟨c', hc'⟩ := observerFallible_complete db ho hk hn hne hl hf
    exact List.ne_nil_of_mem hc' eObserver
  | routes hlt h1 h2 hm hs => exact routeConflict_stage1 db hlt h1 h2 hm hs eStage1
  | pathParam hr hh hpp hc hk ho hf hnot =>
    exact List.ne_nil_of_mem (pathParams_complete db hr hh hpp hc hk ho hf hnot) ePathParams

/-- **C08**: a blueprint that violates a documented rule is refused with at least one error report
    and nothing is written — no SDK, no manifest, in update and in check mode (`b` is what the
    compiler computed for the blueprint: its error count is the number of diagnostics of `check`). -/
theorem c08_rejected_never_compiled (db : DB) (h : Violation db) (b : Gen.Build) (m : Gen.Mode)
    (fs : Gen.FS) (hb : b.errors = db.check.length) :
    (Gen.generate b m fs).exit = 1 ∧ (Gen.generate b m fs).reports ≥ 1 ∧
    (Gen.generate b m fs).fs = fs ∧ (Gen.generate b m fs).writes = 0 := by
  have hpos : b.errors > 0 := by
    rw [hb]
    exact List.length_pos_iff.mpr (violation_detected db h)
  obtain ⟨hfs, hexit, hreports, hwrites⟩ := Gen.reject_atomic b m fs hpos
  exact ⟨hexit, by omega, hfs, hwrites⟩

/-! ## The same rules when inputs are resolved from the route's blueprint (what `build_call_graph` does) -/

/-- whatever is wrong from the point of view of a call graph's root is reported -/
def scope_statement_dynamic : Prop := ∀ db : DB, db.dynamicCheck ≠ [] → db.check ≠ []

/-- root: `c0(&T1) -> T0`, `c1() -> T1`; nested blueprint: `c1b(&T2) -> T1` (no constructor for `T2`),
    route `h(&T0)`. -/
def witnessW5 : DB :=
  { parent := [0, 0], tys := [defaultTy, defaultTy, defaultTy],
    comps := [⟨.ctor, 0, 0, .request, false, [⟨1, .ref⟩], false, 0⟩,
              ⟨.ctor, 0, 1, .request, false, [], false, 1⟩,
              ⟨.ctor, 1, 1, .request, false, [⟨2, .ref⟩], false, 2⟩,
              ⟨.handler, 1, 0, .request, false, [⟨0, .ref⟩], false, 3⟩],
    routes := [⟨3, [.lit 0], [0], false⟩], pparams := [] }

/-- the same with `c1b(&T0) -> T1`: a cycle `T0 → T1 → T0` in the route's call graph only. -/
def witnessW6 : DB :=
  { witnessW5 with comps := [⟨.ctor, 0, 0, .request, false, [⟨1, .ref⟩], false, 0⟩,
              ⟨.ctor, 0, 1, .request, false, [], false, 1⟩,
              ⟨.ctor, 1, 1, .request, false, [⟨0, .ref⟩], false, 2⟩,
              ⟨.handler, 1, 0, .request, false, [⟨0, .ref⟩], false, 3⟩] }

theorem missing_statement_dynamic_false :
    witnessW5.check = [] ∧ witnessW5.dynamicCheck = [⟨.missing, 2, 0⟩] := by decide +kernel

theorem cycle_statement_dynamic_false :
    witnessW6.check = [] ∧ witnessW6.dynamicCheck = [⟨.cycle, 0, 2⟩] := by decide +kernel

/-- **[finding, known]** the analyses resolve the inputs of a component from the component's
    blueprint, `build_call_graph` from the route's: a missing constructor / a cycle that exists only
    for the latter is not reported. -/
theorem scope_statement_dynamic_false : ¬ scope_statement_dynamic := by
  intro h
  have ⟨h1, h2⟩ := missing_statement_dynamic_false
  exact h witnessW5 (by simp [h2]) h1

/-! ## Non-vacuity: every hypothesis set above is satisfiable on a concrete, non-trivial database -/

/-- scopes: 0 root, 1 nested in 0, 2 nested in 1, 3 nested in 0 (a sibling of 1).
    handler 4 (scope 2) → `c2` (scope 1) → transient `c1` (scope 1) → `c0` (root); `c2` also wants type 5,
    whose only constructor `c3` is registered against the sibling blueprint 3. -/
def exMissing : DB :=
  { parent := [0, 0, 1, 0], tys := List.replicate 6 defaultTy,
    comps := [⟨.ctor, 0, 0, .request, false, [], false, 0⟩,
              ⟨.ctor, 1, 1, .transient, false, [⟨0, .ref⟩], false, 1⟩,
              ⟨.ctor, 1, 2, .request, false, [⟨1, .val⟩, ⟨5, .ref⟩], false, 2⟩,
              ⟨.ctor, 3, 5, .request, false, [], false, 3⟩,
              ⟨.handler, 2, 0, .request, false, [⟨2, .ref⟩], false, 4⟩],
    routes := [⟨4, [.lit 0], [0], false⟩], pparams := [] }

example : exMissing.WFScopes := by
  intro s hs
  unfold DB.parentOf exMissing
  match s, hs with
  | 1, _ => decide
  | 2, _ => decide
  | 3, _ => decide
  | n + 4, _ => simp [List.getD]
example : exMissing.anc 2 = [2, 1, 0] ∧ exMissing.lookup 2 0 = some 0 ∧ exMissing.lookup 2 5 = none ∧
    exMissing.lookup 3 5 = some 3 := by decide +kernel
theorem exMissing_reachable : exMissing.Reachable 2 :=
  ⟨4, by decide, by decide, (DB.Needs.refl _ _).step (by decide)⟩
example : exMissing.Reachable 2 := exMissing_reachable
example : ⟨.missing, 2, 1⟩ ∈ exMissing.detectMissing :=
  missing_complete exMissing exMissing_reachable (x := ⟨5, .ref⟩) (by decide) (by decide)
example : Violation exMissing :=
  .missing (c := 2) (k := 1) (x := ⟨5, .ref⟩) exMissing_reachable (by decide) (by decide)
example : exMissing.check = [⟨.missing, 2, 1⟩] := by decide +kernel

/-- handler 4 (scope 1) → `c0` → ring `c1 → c2 → c3 → c1` of length 3 registered at the root. -/
def exCycle : DB :=
  { parent := [0, 0], tys := List.replicate 4 defaultTy,
    comps := [⟨.ctor, 1, 0, .request, false, [⟨1, .ref⟩], false, 0⟩,
              ⟨.ctor, 0, 1, .transient, false, [⟨2, .ref⟩], false, 1⟩,
              ⟨.ctor, 0, 2, .request, false, [⟨3, .ref⟩], false, 2⟩,
              ⟨.ctor, 0, 3, .request, false, [⟨1, .ref⟩], false, 3⟩,
              ⟨.handler, 1, 0, .request, false, [⟨0, .ref⟩], false, 4⟩],
    routes := [⟨4, [.lit 0], [0], false⟩], pparams := [] }

example : Violation exCycle :=
  .cycle (c := 2)
    ⟨4, by decide, by decide,
      (((DB.Needs.refl _ _).step (k := 0) (by decide)).step (k := 1) (by decide)).step (k := 2)
        (by decide)⟩
    (.cons (b := 3) (by decide) (.cons (b := 1) (by decide) (.single (by decide))))
example : exCycle.check = [⟨.cycle, 1, 3⟩] := by decide +kernel
example : HasCycle [[1], [2], [0], []] :=
  ⟨0, .cons (b := 1) (by decide) (.cons (b := 2) (by decide) (.single (by decide)))⟩
example : findCycles [[1], [2], [0, 2], []] = [[0, 1, 2], [2]] := by decide +kernel

/-- the finding's witness satisfies the hypotheses of `singletonDeps_complete` (chain of length 1). -/
example : Violation witnessW1 :=
  .singletonDep (s := 2) (i := 1) (r := 0) (by decide) (by decide) (by decide)
    ((ReachN.refl 2).step (c := 1) (by decide) (by decide)) (by decide) (by decide)

/-- singleton type 0 registered (same constructor, `fn` 7) against the sibling blueprints 1 and 2;
    `&mut` of the singleton in handler 3; non-`Send` singleton type 1 taken by value by handler 3;
    clone-if-necessary on the non-`Clone` type 2 whose constructor also takes `&mut`;
    observer 6 → transient `c7` → fallible request-scoped `c8`. -/
def exMany : DB :=
  { parent := [0, 0, 0],
    tys := [defaultTy, ⟨false, false, false, true⟩, defaultTy, defaultTy, defaultTy],
    comps := [⟨.ctor, 1, 0, .singleton, false, [], false, 7⟩,
              ⟨.ctor, 2, 0, .singleton, false, [], false, 7⟩,
              ⟨.ctor, 0, 1, .singleton, false, [], false, 1⟩,
              ⟨.handler, 1, 0, .request, false, [⟨0, .mut⟩, ⟨1, .val⟩], false, 2⟩,
              ⟨.ctor, 0, 2, .request, true, [⟨1, .mut⟩], false, 3⟩,
              ⟨.handler, 2, 0, .request, false, [⟨2, .ref⟩], false, 4⟩,
              ⟨.observer, 0, 0, .request, false, [⟨3, .ref⟩], false, 5⟩,
              ⟨.ctor, 0, 3, .transient, false, [⟨4, .ref⟩], false, 6⟩,
              ⟨.ctor, 0, 4, .request, false, [], true, 8⟩],
    routes := [⟨3, [.lit 0, .param 1], [0, 1], false⟩, ⟨5, [.lit 0, .param 2], [], true⟩],
    pparams := [] }

example : Violation exMany :=
  .singletonTwice (t := 0) (s1 := 1) (s2 := 2) (c1 := 0) (c2 := 1) (by decide) (by decide)
    (by decide) (by decide) (by decide) (by decide) (by decide) (by decide)
example : Violation exMany :=
  .mutInjection (c := 3) (k := 0) (j := 0) (x := ⟨0, .mut⟩)
    ⟨3, by decide, by decide, DB.Needs.refl _ _⟩ (by decide) (by decide) (by decide)
    (Or.inl (by decide))
example : Violation exMany :=
  .notSendSync (i := 3) (c := 2) ⟨3, by decide, by decide, DB.Needs.refl _ _⟩ (by decide)
    (by decide) (by decide) (Or.inl (by decide))
example : Violation exMany :=
  .singletonByValue (i := 3) (k := 1) (c := 2) (x := ⟨1, .val⟩)
    ⟨3, by decide, by decide, DB.Needs.refl _ _⟩
    (by decide) (by decide) (by decide) (by decide) (by decide) (by decide) (by decide)
example : Violation exMany :=
  .mutOnConstructor (c := 4) (k := 0) (x := ⟨1, .mut⟩)
    (by decide) (by decide) (by decide) (by decide)
example : Violation exMany :=
  .cloneNotClone (c := 4) (by decide) (by decide) (by decide) (by decide)
example : Violation exMany :=
  .observerFallible (o := 6) (c := 8) (by decide) (by decide)
    (.through (i := 7) (.direct (by decide)) (by decide) (by decide) (by decide))
    (by decide) (by decide) (by decide)
/-- `GET|POST /a/{x}` next to `ANY /a/{y}` (non-standard methods included): same shape, different names. -/
example : Violation exMany :=
  .routes (k1 := 0) (k2 := 1) (r1 := ⟨3, [.lit 0, .param 1], [0, 1], false⟩)
    (r2 := ⟨5, [.lit 0, .param 2], [], true⟩)
    (by decide) (by decide) (by decide) ⟨0, by decide, by decide⟩ (Or.inr (by decide))
example : exMany.stage1 = [⟨.routePathConflict, 1, 0⟩] ∧
    exMany.stage2 = [⟨.mutInput, 4, 0⟩] ∧
    exMany.stage3 = [⟨.mutSingleton, 3, 0⟩, ⟨.mutSingleton, 4, 0⟩, ⟨.singletonOnce, 0, 2⟩,
      ⟨.observerFallible, 6, 8⟩, ⟨.cloneNotClone, 4, 2⟩] ∧
    exMany.stage4 = [⟨.notSend, 2, 1⟩, ⟨.singletonByValue, 3, 1⟩] := by decide +kernel

/-- route 0: `/a/{x}` handled by `h1(&PathParams<P>)`... through constructor `c0(&PathParams<P>)`;
    `P` has the fields `x` (1) and `zz` (7). Type 1 is `PathParams<P>`, built by the framework's `c2`. -/
def exPathParams : DB :=
  { parent := [0], tys := List.replicate 2 defaultTy,
    comps := [⟨.ctor, 0, 0, .request, false, [⟨1, .ref⟩], false, 0⟩,
              ⟨.handler, 0, 0, .request, false, [⟨0, .ref⟩], false, 1⟩,
              ⟨.ctor, 0, 1, .request, false, [], true, 2⟩],
    routes := [⟨1, [.lit 0, .param 1], [0], false⟩], pparams := [⟨1, [1, 7]⟩] }

theorem exPathParams_violation : Violation exPathParams :=
  .pathParam (k := 0) (c := 2) (f := 7) (r := ⟨1, [.lit 0, .param 1], [0], false⟩)
    (pp := ⟨1, [1, 7]⟩) (by decide) (by decide) (by decide)
    (((DB.Needs.refl _ 1).step (k := 0) (by decide)).step (k := 2) (by decide))
    (by decide) (by decide) (by decide) (by decide)
example : Violation exPathParams := exPathParams_violation
example : exPathParams.check = [⟨.pathParam, 0, 1⟩] := by decide +kernel

/-- `c08_rejected_never_compiled` on a concrete build and file system (Thm/C09's `exBuild`/`exFS`). -/
example : (Gen.generate (Gen.exBuild 1) .update Gen.exFS).exit = 1 ∧
    (Gen.generate (Gen.exBuild 1) .update Gen.exFS).fs = Gen.exFS :=
  have ⟨hexit, _, hfs, _⟩ := c08_rejected_never_compiled exPathParams exPathParams_violation
    (Gen.exBuild 1) .update Gen.exFS (by decide)
  ⟨hexit, hfs⟩

end Pxv.Rules

namespace Pxv.Dep

/-- **C08 (cycles), the graph is complete**: when the loop of `DependencyGraph::build` (mirrored by `build`: worklist with
    `IndexSet::pop`, error-handler phase, transformer phase, exit when nothing is left to visit AND the last transformer phase
    added no node) ends by itself, the graph it returns is closed: every compute node has its error handler and its
    transformers (the `Ok` / `Err` matchers) in the graph, and every explored node the constructors of its inputs — for every
    component database, root and set of error observers. A dependency cycle that is only reachable through the inputs of an
    error handler is therefore IN the graph `find_cycles` examines (cycles_complete does the rest). -/
theorem build_closed (db : DB) (fuel root : Nat) (observers : List Nat) (h : (build db fuel root observers).2 = true) :
    Closed db (build db fuel root observers).1 :=
  (build_spec (inv_stable db) (fun _ _ => round_closed) fuel root observers (inv_init db _)).2 h

/-- ... and the root is one of its nodes: the closure is the closure OF the component whose call graph is about to be built. -/
theorem build_contains_root (db : DB) (fuel root : Nat) (observers : List Nat) (h : (build db fuel root observers).2 = true) :
    root ∈ (build db fuel root observers).1.nodes :=
  build_start_nodes db fuel root observers h
    (List.mem_append_right _ (List.mem_singleton_self root))

/-- **no spurious dependency edges** (so no cycle is reported that the blueprint does not have: C02's side of the cycle rule):
    every edge of the graph `build` returns is justified by the database — a constructor feeding a component that needs its
    output, a component and its error handler, a component and one of its transformers. -/
theorem build_reports_only_real_dependencies (db : DB) (fuel root : Nat) (observers : List Nat) :
    ∀ e ∈ (build db fuel root observers).1.edges, Just db e :=
  (build_einv db fuel root observers).edges

/-- the shape of the seeded change C09-5: handler 0 needs `A`, whose constructor is the `Ok` matcher 2 of the fallible
    callable 1; the `Err` matcher 3 has the error handler 4, which needs `C` (5); 5 needs `D` (6) and 6 needs `C`: a cycle
    behind the error handler -/
def exErrCycle : DB := { deps := [(0, [2]), (2, [1]), (4, [5]), (5, [6]), (6, [5])], eh := [(3, 4)], tr := [(1, [2, 3])] }

-- the real loop reaches the cycle 5 ⇄ 6 ...
example : (build exErrCycle 50 0 []).2 = true ∧ (build exErrCycle 50 0 []).1.nodes = [0, 2, 1, 3, 4, 5, 6] ∧
    (5, 6) ∈ (build exErrCycle 50 0 []).1.edges ∧ (6, 5) ∈ (build exErrCycle 50 0 []).1.edges := by decide +kernel
-- ... the variant that stops as soon as nothing is left to visit ends right after the matchers were added: the error handler of
-- the `Err` matcher is never looked up, the graph is not closed and the cycle is not in it
example : (buildEarly exErrCycle 50 0 []).2 = true ∧ (buildEarly exErrCycle 50 0 []).1.nodes = [0, 2, 1, 3] ∧
    exErrCycle.ehOf 3 = some 4 ∧ 4 ∉ (buildEarly exErrCycle 50 0 []).1.nodes := by decide +kernel

end Pxv.Dep

