import Pxv.Lemmas.Errors
import Pxv.Lemmas.ErrorsSplice
/-!
C06 — errors reach the right handler, every observer, and stop the pipeline.

Model: `Pxv/Model/Errors.lean`. The theorems about `exec`, the model of the code pavexc
generates from one ordered call graph, hold for **every** graph, every set of failing components and
whatever basic blocks the visitor picks, because they only rest on the binding discipline of the generated
code (`Inv`, proved to be an invariant in `Pxv/Lemmas/Errors.lean`) and on *local* well-formedness of the
error arms (`armsWF`, a decidable predicate the check evaluates on every graph the real pavexc emits).
-/
namespace Pxv.Err
open Pxv.Pipe (Mw MwKind Stage Mid)

/-- the route at an address: `[i₀, …, iₙ]` = item `i₀` of the blueprint is a nested blueprint, item `i₁` of
    that one is a nested blueprint, …, item `iₙ` of the innermost one is the route. -/
def routeAt : Bp → List Nat → Option Nat
  | .nil, _ => none
  | .cons _ _, [] => none
  | .cons (.route h _) _, [0] => some h
  | .cons (.nest b) _, 0 :: i :: more => routeAt b (i :: more)
  | .cons _ _, 0 :: _ => none
  | .cons _ rest, (i + 1) :: more => routeAt rest (i :: more)

/-- **the observers registered before the route at an address**: in each blueprint on the way down, the
    observers registered before the point where the next blueprint is nested (before the route, in the
    innermost one). Nothing registered later, nothing registered in a blueprint that is not on the way. -/
def obsAt : Bp → List Nat → List Nat
  | .nil, _ => []
  | .cons _ _, [] => []
  | .cons (.nest b) _, 0 :: more => obsAt b more
  | .cons _ _, 0 :: _ => []
  | .cons (.obs x) rest, (i + 1) :: more => x :: obsAt rest (i :: more)
  | .cons _ rest, (i + 1) :: more => obsAt rest (i :: more)

/-- **C06 (i) — exactly the observers registered before the route**, for every blueprint tree, by induction
    on the tree: the observer chain `routes` (↔ `_process_blueprint`) hands to a route is what was in force
    on entry followed by `obsAt`. Observers registered after the route, or in a sibling blueprint, are not
    part of it. -/
theorem observers_registered_before : ∀ (b : Bp) (addr : List Nat) (h : Nat) (c : List Mw) (o p : List Nat) (k : Nat),
    routeAt b addr = some h →
    ∃ r ∈ routes b c o p k, r.route = h ∧ r.observers = o ++ obsAt b addr
  | .nil, _, _, _, _, _, _, hr => by simp [routeAt] at hr
  | .cons it rest, [], _, _, _, _, _, hr => by simp [routeAt] at hr
  | .cons it rest, 0 :: more, h, c, o, p, k, hr => by
    cases it with
    | route h' d =>
      cases more with
      | nil =>
        simp only [routeAt, Option.some.injEq] at hr
        subst hr
        exact ⟨⟨h', c, o, p, d⟩, by simp [routes], rfl, by simp [obsAt]⟩
      | cons _ _ => simp [routeAt] at hr
    | nest b' =>
      cases more with
      | nil => simp [routeAt] at hr
      | cons i more' =>
        simp only [routeAt] at hr
        obtain ⟨r, hr1, hr2, hr3⟩ :=
          observers_registered_before b' (i :: more') h c o (p ++ [k]) 0 hr
        exact ⟨r, by simp [routes, hr1], hr2, by simp [obsAt, hr3]⟩
    | ctor _ _ | mw _ _ | obs _ | ehReg _ => simp [routeAt] at hr
  | .cons it rest, (i + 1) :: more, h, c, o, p, k, hr => by
    simp only [routeAt] at hr
    have ih := fun c o k => observers_registered_before rest (i :: more) h c o p k hr
    cases it with
    | obs x =>
      obtain ⟨r, hr1, hr2, hr3⟩ := ih c (o ++ [x]) k
      exact ⟨r, by simp [routes, hr1], hr2, by simp [obsAt, hr3]⟩
    | mw m d =>
      obtain ⟨r, hr1, hr2, hr3⟩ := ih (c ++ [m]) o k
      exact ⟨r, by simp [routes, hr1], hr2, by simp [obsAt, hr3]⟩
    | nest b' =>
      obtain ⟨r, hr1, hr2, hr3⟩ := ih c o (k + 1)
      exact ⟨r, by simp [routes, hr1], hr2, by simp [obsAt, hr3]⟩
    | route _ _ | ctor _ _ | ehReg _ =>
      obtain ⟨r, hr1, hr2, hr3⟩ := ih c o k
      exact ⟨r, by simp [routes, hr1], hr2, by simp [obsAt, hr3]⟩

/-- a route's observer chain is fixed when the route is registered: nothing registered after it (in its
    own or an enclosing blueprint) is part of it. -/
theorem after_route_invisible (h : Nat) (d : Option Nat) (rest rest' : Bp) (c : List Mw) (o p : List Nat) (k : Nat) :
    (routes (.cons (.route h d) rest) c o p k).head? = (routes (.cons (.route h d) rest') c o p k).head? := by
  simp [routes]

/-- a nested blueprint starts from a snapshot of its parent's chains; what it registers does not leak to
    what the parent registers afterwards (siblings included). -/
theorem nested_is_snapshot (b rest : Bp) (c : List Mw) (o p : List Nat) (k : Nat) :
    routes (.cons (.nest b) rest) c o p k = routes b c o (p ++ [k]) 0 ++ routes rest c o p (k + 1) := by
  simp [routes]

-- observers: o1 before the nest, o2 inside the nested blueprint before the route, o3 inside after the
-- route, o4 in a sibling blueprint, o5 after everything
example : let bp : Bp := .cons (.obs 1) (.cons (.nest (.cons (.obs 4) .nil)) (.cons (.nest (.cons (.obs 2)
      (.cons (.route 7 none) (.cons (.obs 3) .nil)))) (.cons (.obs 5) (.cons (.route 8 none) .nil))))
    routeAt bp [2, 1] = some 7 ∧ obsAt bp [2, 1] = [1, 2] ∧ routeAt bp [4] = some 8 ∧ obsAt bp [4] = [1, 5] ∧
    (routes bp [] [] [] 0).map (fun r => (r.route, r.observers, r.path)) = [(7, [1, 2], [1]), (8, [1, 5], [])] := by
  decide +kernel

/-- a component-specific handler (`.error_handler(..)` on the registration) always wins. -/
theorem designate_direct (bp : Bp) (targetOf : Nat → Target) (t : Target) (path : List Nat) (k : Nat) :
    designate bp targetOf t path (some k) = .user k := rfl

/-- a handler for the concrete error type, visible from the component's scope, wins over any handler for
    `pavex::Error`, however close the latter is registered. -/
theorem designate_specific_first (bp : Bp) (targetOf : Nat → Target) (t : Target) (path : List Nat) (k : Nat)
    (h : lookupTyped bp targetOf t (path.length + 1) path = some k) :
    designate bp targetOf t path none = .user k := by
  simp [designate, h]

/-- no handler for the concrete type in scope: the user's handler for `pavex::Error` visible from there … -/
theorem designate_fallback (bp : Bp) (targetOf : Nat → Target) (t : Target) (path : List Nat) (k : Nat)
    (h : lookupTyped bp targetOf t (path.length + 1) path = none)
    (hf : lookupTyped bp targetOf .any (path.length + 1) path = some k) :
    designate bp targetOf t path none = .user k := by
  simp [designate, h, hf]

/-- … else the framework's `pavex::Error::to_response`. -/
theorem designate_default (bp : Bp) (targetOf : Nat → Target) (t : Target) (path : List Nat)
    (h : lookupTyped bp targetOf t (path.length + 1) path = none)
    (hf : lookupTyped bp targetOf .any (path.length + 1) path = none) :
    designate bp targetOf t path none = .default := by
  simp [designate, h, hf]

/-- **scoping of by-type handlers**: the handler found is registered, for that error type, in a blueprint
    that encloses (or is) the one the *fallible component* is registered in, and no blueprint in between
    registers one: the innermost enclosing registration wins; blueprints that do not enclose the component
    (siblings, children) are never consulted. -/
theorem lookupTyped_nearest (bp : Bp) (targetOf : Nat → Target) (t : Target) :
    ∀ (fuel : Nat) (path : List Nat) (k : Nat), lookupTyped bp targetOf t fuel path = some k →
      ∃ q, q <+: path ∧ k ∈ ehRegsAt bp q 0 ∧ targetOf k = t ∧
        ∀ q', q <+: q' → q' <+: path → q' ≠ q → ∀ k' ∈ ehRegsAt bp q' 0, targetOf k' ≠ t
  | 0, _, _, h => by simp [lookupTyped] at h
  | fuel + 1, path, k, h => by
    simp only [lookupTyped] at h
    split at h
    · rename_i k0 hk0
      simp only [Option.some.injEq] at h
      subst h
      have hmem := List.mem_of_getLast? hk0
      obtain ⟨hm1, hm2⟩ := List.mem_filter.mp hmem
      refine ⟨path, List.prefix_refl _, hm1, by simpa using hm2, ?_⟩
      intro q' h1 h2 hne
      exact absurd (h2.eq_of_length_le h1.length_le) hne
    · rename_i hnone
      split at h
      · simp at h
      · obtain ⟨q, hq1, hq2, hq3, hq4⟩ :=
          lookupTyped_nearest bp targetOf t fuel path.dropLast k h
        refine ⟨q, hq1.trans (List.dropLast_prefix _), hq2, hq3, ?_⟩
        intro q' h1 h2 hne k' hk'
        by_cases hqp : q' = path
        · subst hqp
          intro hc
          have : k' ∈ (ehRegsAt bp q' 0).filter (fun k => targetOf k == t) :=
            List.mem_filter.mpr ⟨hk', by simpa using hc⟩
          rw [List.getLast?_eq_none_iff] at hnone
          rw [hnone] at this
          cases this
        · exact hq4 q' h1 (prefix_dropLast h2 hqp) hne k' hk'

/-- **C06 (a) — nothing that depends on the `Ok` value runs.** For every ordered call graph, every failing set
    and every way of running it: if the fallible node `x` inspected by the `MatchBranching` node `b` returned
    `Err`, then no node computed (directly or transitively) from its `Ok` matcher is ever invoked. -/
theorem ok_dependants_skipped (g : Graph) (fails : Kind → Bool) (fuel : Nat) (targets : List Nat)
    (hop : oneParent g = true) (b x okm : Nat)
    (hx : scrutinee g b = some x) (hf : fails (g.kind x) = true)
    (hokm : okm ∈ g.succs b) (hk : g.kind okm = .okMatch) (n : Nat) (hpath : DataPath g okm n) :
    ∀ e ∈ outOf g fails (exec g fails fuel targets [] {}).1, e.node ≠ n := by
  intro e he hen
  have hinv := exec_inv fuel targets [] {} (Inv.init g fails)
  have hop' := OneParent.of_check hop
  have hokb := bound_of_path hinv hop' hpath (hen ▸ (out_bound hinv e he).1)
  have hokc : okm ∈ (exec g fails fuel targets [] {}).1.chosen :=
    hinv.matchers okm hokb (by rw [hk]; rfl)
  obtain ⟨b', x', _, _, hvb', hx', hk'⟩ := hinv.chosen okm hokc
  -- `okm` hangs off `b` only
  obtain ⟨e1, he1, hs1, hd1⟩ := mem_succs.mp hokm
  obtain ⟨e2, he2, hs2, hd2⟩ := mem_succs.mp hvb'
  have := hop' okm (by rw [hk]; rfl) e1 he1 e2 he2 hd1 hd2
  rw [hs1, hs2] at this
  subst this
  rw [hx] at hx'
  cases hx'
  rw [hf, hk] at hk'
  cases hk'

/-- the same for the other side: what hangs off an `Err` matcher only runs if its arm was entered. -/
theorem arm_entered_of_ran (g : Graph) (fails : Kind → Bool) (fuel : Nat) (targets : List Nat)
    (hop : oneParent g = true) (m n : Nat) (hk : g.kind m = .errMatch) (hpath : DataPath g m n)
    (e : Ev) (he : e ∈ outOf g fails (exec g fails fuel targets [] {}).1) (hen : e.node = n) :
    m ∈ (exec g fails fuel targets [] {}).1.errs :=
  have hinv := exec_inv fuel targets [] {} (Inv.init g fails)
  errs_of_path hinv (OneParent.of_check hop) hk hpath (hen ▸ (out_bound hinv e he).1)

theorem ret_through_arm {g : Graph} {fails : Kind → Bool} {fuel : Nat} {targets : List Nat} {st : St}
    {r m : Nat} {rest : List Nat} (hexec : exec g fails fuel targets [] {} = (st, some r))
    (hlast : st.chosen = m :: rest) : Inv g fails st ∧ st.ran.Nodup ∧ r ∈ st.bound ∧ r ∈ g.sinksOf m := by
  have hinv := exec_inv fuel targets [] {} (Inv.init g fails)
  have hnd :=
    exec_ran_nodup (g := g) (fails := fails) fuel targets [] {} .nil (fun _ h => nomatch h)
  rw [hexec] at hinv hnd
  obtain ⟨hrb, ⟨hc, _⟩ | ⟨v, rest', hc, hr⟩⟩ := exec_ret fuel targets [] {} st r hexec
  · rw [hlast] at hc; cases hc
  · rw [hlast] at hc; cases hc; exact ⟨hinv, hnd, hrb, hr⟩

/-- any other error handler with a fragment would have its own `Err` matcher in `errs` -/
theorem bound_eh_eq {g : Graph} {fails : Kind → Bool} {st : St} {m h n : Nat} (wf : ArmsWF g)
    (hinv : Inv g fails st) (herrs : st.errs = [m]) (hh : isEh (g.kind h) = true) (hm : m ∈ ehMatchers g h)
    (hn : n ∈ st.bound) (hne : isEh (g.kind n) = true) : n = h := by
  obtain ⟨m', hm'⟩ := wf.ehMatcher n hne
  have hm'mem : m' ∈ ehMatchers g n := by rw [hm']; exact List.mem_singleton.mpr rfl
  have := errs_of_path hinv wf.oneParent (mem_ehMatchers_kind hm'mem) (ehMatchers_path hm'mem) hn
  rw [herrs] at this
  cases List.mem_singleton.mp this
  exact wf.oneHandler _ n h hne hh hm'mem hm

/-- **C06 (b) — the designated error handler runs exactly once, and no other.** In a well-formed graph, if
    the closure returned through the `Err` arm of the matcher `m` (the only arm of that kind entered, and the
    last arm entered), then among everything that ran there is exactly one invocation of an error handler:
    the handler `h` that hangs off `m`. -/
theorem handler_once (g : Graph) (fails : Kind → Bool) (fuel : Nat) (targets : List Nat)
    (hwf : armsWF g = true) (st : St) (r m h : Nat) (rest : List Nat)
    (hexec : exec g fails fuel targets [] {} = (st, some r))
    (herrs : st.errs = [m]) (hlast : st.chosen = m :: rest)
    (hh : isEh (g.kind h) = true) (hm : m ∈ ehMatchers g h) :
    (outOf g fails st).filter (fun e => isEh e.kind) = [Ev.call h (g.kind h)] := by
  have wf := ArmsWF.of_check hwf
  obtain ⟨hinv, hnd, hrb, hrs⟩ := ret_through_arm hexec hlast
  -- the returned terminal lies below `m`, hence is computed from `h`
  have hpath : DataPath g h r := wf.sinks m h (mem_ehMatchers_kind hm) hh hm r hrs
  have hhb := bound_of_path hinv wf.oneParent hpath hrb
  have hhran : h ∈ st.ran := hinv.boundRan h hhb (isEh_not_structural hh) (isEh_not_unit hh)
  have hsole : ∀ n ∈ st.ran, isEh (g.kind n) = true → n = h :=
    fun n hn hne => bound_eh_eq wf hinv herrs hh hm (hinv.ran n hn).1 hne
  unfold outOf
  rw [filter_eh_out, filter_all_eq hnd hhran hh hsole]
  rfl

/-- **C06 (c) — every observer runs exactly once, in order, after the error handler and right before the
    handler's response is turned into the closure's return value.** In a well-formed graph, if the closure
    returned through the `Err` arm of `m`, whose handler is `h` and whose handler's only consumer is `ir`
    (its `IntoResponse`), then
    * the invocations of output-less components (the observers) during the whole run are exactly the chain
      that happens before `ir`, in chain order, once each;
    * they sit between the handler's invocation and `ir`: the run is `A ++ observers ++ [ir] ++ B` with the
      handler's call in `A`. -/
theorem observers_once_in_order (g : Graph) (fails : Kind → Bool) (fuel : Nat) (targets : List Nat)
    (hwf : armsWF g = true) (st : St) (r m h ir : Nat) (rest : List Nat)
    (hexec : exec g fails fuel targets [] {} = (st, some r))
    (herrs : st.errs = [m]) (hlast : st.chosen = m :: rest)
    (hh : isEh (g.kind h) = true) (hm : m ∈ ehMatchers g h)
    (hir : g.dataPreds ir = [h]) (honly : ∀ c, h ∈ g.dataPreds c → c = ir)
    (hirk : isUnit (g.kind ir) = false ∧ isStructural (g.kind ir) = false) :
    let observers := (chainOf g g.size ir).map (fun p => Ev.call p (g.kind p))
    (outOf g fails st).filter (fun e => isUnit e.kind) = observers ∧
    ∃ A B, outOf g fails st = A ++ observers ++ [evAt g fails ir] ++ B ∧
      Ev.call h (g.kind h) ∈ A := by
  intro observers
  have wf := ArmsWF.of_check hwf
  obtain ⟨hinv, hnd, hrb, hrs⟩ := ret_through_arm hexec hlast
  have hhir : h ∈ g.dataPreds ir := by rw [hir]; exact List.mem_singleton.mpr rfl
  -- `ir` ran: the returned terminal is computed from `h` through its only consumer
  have hirb : ir ∈ st.bound := by
    have hpath : DataPath g h r := wf.sinks m h (mem_ehMatchers_kind hm) hh hm r hrs
    rcases dataPath_head hpath with rfl | ⟨c, hc, hcr⟩
    · -- `h` itself cannot be a terminal: `ir` consumes it
      obtain ⟨e, he, hes, hed, _⟩ := mem_dataPreds.mp hhir
      have : ir ∈ g.succs h := mem_succs.mpr ⟨e, he, hes, hed⟩
      rw [sinksOf_no_succs hrs] at this
      cases this
    · cases honly c hc
      exact bound_of_path hinv wf.oneParent hcr hrb
  have hranu : ∀ n ∈ st.ran, isUnit (g.kind n) = false := fun n hn => (hinv.ran n hn).2.2
  -- calls are inlined in front of `ir` only: elsewhere it would be in front of the consumer of another handler
  have hfrag : ∀ n ∈ st.ran, n ≠ ir → frag g g.size n = [] := by
    intro n hn hne
    have hub : unitBefores g n = [] := Decidable.byContradiction fun hub => by
      obtain ⟨h', hd', hh', _⟩ := wf.inlined n (hranu n hn) hub
      have hmem : h' ∈ g.dataPreds n := by rw [hd']; exact List.mem_singleton.mpr rfl
      have hb' : h' ∈ st.bound := bound_closed hinv wf.oneParent (hinv.ran n hn).1 hmem
      cases bound_eh_eq wf hinv herrs hh hm hb' hh'
      exact hne (honly n hmem)
    cases g.size <;> simp [frag, hub]
  obtain ⟨hiru, hirs⟩ := hirk
  obtain ⟨r1, r2, hsplit⟩ := List.append_of_mem (hinv.boundRan ir hirb hirs hiru)
  rw [hsplit] at hnd hfrag
  -- `ir` ran once: it is neither in `r1` nor in `r2`, so nothing is inlined there
  obtain ⟨-, hnd2, hdisj⟩ := List.nodup_append.mp hnd
  have hir1 : ∀ n ∈ r1, n ≠ ir := fun n hn => hdisj n hn ir List.mem_cons_self
  have hir2 : ∀ n ∈ r2, n ≠ ir := fun n hn hne => (List.nodup_cons.mp hnd2).1 (hne ▸ hn)
  have hr1 : r1.flatMap (frag g g.size) = [] := List.flatMap_eq_nil_iff.mpr fun n hn =>
    hfrag n (List.mem_append_left _ hn) (hir1 n hn)
  have hr2 : r2.flatMap (frag g g.size) = [] := List.flatMap_eq_nil_iff.mpr fun n hn =>
    hfrag n (List.mem_append_right _ (List.mem_cons_of_mem _ hn)) (hir2 n hn)
  have hfragir : frag g g.size ir = observers := frag_eq_chain wf.single g.size ir
  unfold outOf
  refine ⟨?_, r1.flatMap (emit g fails), r2.flatMap (emit g fails), ?_, ?_⟩
  · rw [filter_unit_out g fails st.ran hranu, hsplit]
    simp [hr1, hr2, hfragir]
  · rw [hsplit]
    simp [emit, hfragir]
  · have hh1 : h ∈ r1 :=
      hinv.order r1 ir r2 hsplit h hhir (isEh_not_structural hh) (isEh_not_unit hh)
    exact List.mem_flatMap.mpr ⟨h, hh1, by simp [emit, evAt, isEh_not_canFail hh]⟩

/-- **C06 (d) — the response of the closure is the error handler's.** Under the hypotheses of `handler_once`
    for the graph of a middleware / handler closure, the closure ends with the response of `h`. -/
theorem closure_status_is_handlers (env : Env) (k : Kind) (root : Nat)
    (hwf : armsWF (env.graphOf k) = true) (hroot : findRoot (env.graphOf k) = some root)
    (st : St) (r m h : Nat) (rest : List Nat)
    (hexec : exec (env.graphOf k) env.fails ((env.graphOf k).size + 1) (happySink (env.graphOf k) root) [] {} = (st, some r))
    (herrs : st.errs = [m]) (hlast : st.chosen = m :: rest)
    (hh : isEh ((env.graphOf k).kind h) = true) (hm : m ∈ ehMatchers (env.graphOf k) h) :
    (runClosure env k).outcome = .err (ehStatus env ((env.graphOf k).kind h)) := by
  have hone := handler_once (env.graphOf k) env.fails _ _ hwf st r m h rest hexec herrs hlast hh hm
  simp only [runClosure, runGraph, hroot, hexec, herrs, lastEhStatus, hone]
  simp [Ev.kind]

theorem statusOr_ok (s : Nat) : Outcome.ok.statusOr s = s := rfl

/-- **C06 (e) — the remaining post-processing does not replace the handler's response**: post-processing
    middlewares whose closures end normally hand on the status they received. -/
theorem posts_keep_status (env : Env) : ∀ (qs : List Nat) (s : Nat),
    (∀ q ∈ qs, (runClosure env (.mw q)).outcome = .ok) → (runPostsE env qs s).2.1 = s
  | [], _, _ => rfl
  | q :: qs, s, h => by
    simp only [runPostsE]
    rw [h q List.mem_cons_self]
    exact posts_keep_status env qs s (fun q' hq' => h q' (List.mem_cons_of_mem _ hq'))

/-- … and a post-processing middleware that fails replaces it with its own error handler's response. -/
theorem post_error_replaces (env : Env) (q : Nat) (qs : List Nat) (s e : Nat)
    (hq : (runClosure env (.mw q)).outcome = .err e)
    (hrest : ∀ q' ∈ qs, (runClosure env (.mw q')).outcome = .ok) :
    (runPostsE env (q :: qs) s).2.1 = e := by
  simp only [runPostsE, hq, Outcome.statusOr]
  exact posts_keep_status env qs e hrest

/-- **C06 (f) — an error in a pre-processing middleware (or in what it needs) stops the stage**: the later
    pre-processors, the wrapping middleware / handler of the stage and everything inside it do not run;
    the stage's post-processors receive the error handler's response. -/
theorem pre_error_stops_stage (env : Env) (s : Stage) (rest : List Stage) (e : Nat)
    (h : (runPresE env s.pres).2.1 = some e) :
    (runStagesE env (s :: rest)).evs = (runPresE env s.pres).1 ++ (runPostsE env s.posts e).1 ∧
    (runStagesE env (s :: rest)).status = (runPostsE env s.posts e).2.1 := by
  simp [runStagesE, h]

theorem pres_error_first (env : Env) (p : Nat) (ps : List Nat) (e : Nat)
    (hp : (runClosure env (.mw p)).outcome = .err e) :
    runPresE env (p :: ps) = (expand [.pre p] (runClosure env (.mw p)).evs, some e, (runClosure env (.mw p)).stuck) := by
  simp [runPresE, hp]

/-- **C06 (g) — an error in the handler's closure**: the stage answers with the error handler's response
    (after the stage's post-processing), whatever the handler would have returned. -/
theorem handler_error_status (env : Env) (s : Stage) (rest : List Stage) (h e : Nat)
    (hmid : s.mid = .handler h) (hpres : (runPresE env s.pres).2.1 = none)
    (herr : (runClosure env (.handler h)).outcome = .err e)
    (hposts : ∀ q ∈ s.posts, (runClosure env (.mw q)).outcome = .ok) :
    (runStagesE env (s :: rest)).status = e := by
  simp only [runStagesE, hpres, hmid, runMid, herr, Outcome.statusOr]
  exact posts_keep_status env s.posts e hposts

/-- **C06 (h) — an error in a wrapping middleware's closure before `next` is awaited** (one of its inputs, or
    the middleware itself): the inner stages do not run at all, and the stage answers with the error
    handler's response. -/
theorem wrap_error_skips_inner (env : Env) (s : Stage) (rest : List Stage) (w e : Nat)
    (hmid : s.mid = .wrap w) (hpres : (runPresE env s.pres).2.1 = none)
    (hnot : rootCalled (runClosure env (.mw w)).evs = false)
    (herr : (runClosure env (.mw w)).outcome = .err e)
    (hposts : ∀ q ∈ s.posts, (runClosure env (.mw q)).outcome = .ok) :
    (runStagesE env (s :: rest)).evs =
      (runPresE env s.pres).1 ++ expand [] (runClosure env (.mw w)).evs ++ (runPostsE env s.posts e).1 ∧
    (runStagesE env (s :: rest)).status = e := by
  simp only [runStagesE, hpres, hmid, runMid, hnot, herr, Outcome.statusOr, Bool.false_eq_true,
    ↓reduceIte]
  exact ⟨trivial, posts_keep_status env s.posts e hposts⟩

/-- **C06 (h′) — an error in the entry closure** (the synthetic `wrap_noop` stage builds the request-scoped
    values shared by several later stages): no middleware and no handler runs at all, the client sees the
    error handler's response. -/
theorem entry_error_stops_route (env : Env) (chain : List Mw) (h e : Nat)
    (hnot : rootCalled (runClosure env .noop).evs = false)
    (herr : (runClosure env .noop).outcome = .err e) :
    runRoute env chain h = ⟨expand [] (runClosure env .noop).evs, e, (runClosure env .noop).stuck⟩ := by
  simp [runRoute, hnot, herr, Outcome.statusOr]

/-- what a closure contributes to the trace when its root is not reached: constructor invocations,
    failures, error handlers and observers only — no middleware, no handler event. -/
theorem expand_nil_no_pipeline_events : ∀ (evs : List Ev), ∀ p ∈ expand [] evs,
    (∃ i, p = .ctor i) ∨ (∃ i, p = .failCtor i) ∨ (∃ i, p = .failHandler i) ∨ (∃ i, p = .failMw i) ∨
    (∃ k, p = .eh k) ∨ (∃ o, p = .observer o)
  | [], p, hp => by simp [expand] at hp
  | ev :: rest, p, hp => by
    simp only [expand, List.mem_append] at hp
    rcases hp with hp | hp
    · split at hp
      · simp at hp
      · cases ev with
        | call n k => cases k <;> simp_all [evOf]
        | fail n k => cases k <;> simp_all [evOf]
    · exact expand_nil_no_pipeline_events rest p hp

/-- when does a closure not reach its root? whenever a fallible node the root is computed from failed:
    the root (middleware / handler) is then not invoked, so, for a wrapping middleware, `next` is never
    awaited. -/
theorem root_not_called (g : Graph) (fails : Kind → Bool) (fuel : Nat) (targets : List Nat)
    (hop : oneParent g = true) (b x okm : Nat)
    (hx : scrutinee g b = some x) (hf : fails (g.kind x) = true)
    (hokm : okm ∈ g.succs b) (hk : g.kind okm = .okMatch)
    (hroots : ∀ n k, g.kind n = k → isRootCall (.call n k) = true → DataPath g okm n) :
    rootCalled (outOf g fails (exec g fails fuel targets [] {}).1) = false := by
  refine Bool.eq_false_iff.mpr fun hc => ?_
  obtain ⟨e, he, hroot⟩ := List.any_eq_true.mp hc
  have hk' := (out_bound (exec_inv fuel targets [] {} (Inv.init g fails)) e he).2
  -- a root call is the call of its node's own component
  cases e with
  | fail n k => cases hroot
  | call n k =>
    have hpath : DataPath g okm n := hroots n k hk'.symm hroot
    exact ok_dependants_skipped g fails fuel targets hop b x okm hx hf hokm hk n hpath _ he rfl

/-- **C06 (k) — the chain the splice builds is the registration order.** For every graph and every handler
    child in front of which nothing is inlined yet: after `attachObservers` (↔ the `for error_observer_id`
    loop and the final happens-before edge), the chain of output-less nodes that the generated code inlines in
    front of `child` (`chainOf`, what `observers_once_in_order` says runs) consists of the observers `obs`,
    in that order. -/
theorem spliced_chain_is_registration_order (g : Graph) (hc : Closed g) (enew child : Nat)
    (hchild : child < g.size) (hub : unitBefores g child = []) (obs : List Nat)
    (h : Nat) (hh : h < g.size) (hout : isUnit (g.kind h) = false) (hne : obs ≠ []) :
    let g' := attachObservers g enew child obs (some h)
    (chainOf g' g'.size child).map (fun n => observerId (g'.kind n)) = obs.map some := by
  intro g'
  obtain ⟨h1, h2⟩ := attachObservers_chainOf g hc enew child hchild hub obs (some h)
    (by intro p hp; cases hp; exact ⟨hh, hout⟩)
  show (chainOf g' g'.size child).map _ = _
  rw [h1]
  apply List.ext_getElem
  · simp
  · intro i hi1 hi2
    simp only [List.length_map, List.length_range] at hi1
    simp only [List.getElem_map, List.getElem_range]
    rw [h2 i hi1]
    rfl

/-- the splice adds exactly one observer node per observer and per error handler it fires for, and no
    other node. -/
theorem splice_nodes (obs : List Nat) : ∀ (hs : List Nat) (g : Graph),
    ∃ extra, (splice obs g hs).nodes = g.nodes ++ extra ∧
      (extra.filter isObserver).length = fired obs g hs * obs.length ∧
      (extra.filter (· == .branch)).length = 0
  | [], g => ⟨[], (List.append_nil _).symm, (Nat.zero_mul _).symm, rfl⟩
  | h :: hs, g => by
    simp only [splice, fired]
    by_cases hobs : obs.isEmpty = true
    · simp only [hobs, ↓reduceIte]
      exact ⟨[], (List.append_nil _).symm, (Nat.zero_mul _).symm, rfl⟩
    · simp only [hobs, Bool.false_eq_true, ↓reduceIte]
      cases hc : (g.succs h).head? with
      | none => exact splice_nodes obs hs g
      | some child =>
        cases he : errorNewOf g h with
        | none => exact splice_nodes obs hs g
        | some enew =>
          -- the splice fires for `h`: one node per observer, then what the other handlers add
          obtain ⟨extra, hnodes, hobs, hbr⟩ :=
            splice_nodes obs hs (attachObservers g enew child obs (some h))
          have hall : (obs.map Kind.observer).filter isObserver = obs.map Kind.observer :=
            List.filter_eq_self.mpr (by simp [isObserver])
          have hnone : (obs.map Kind.observer).filter (· == .branch) = [] :=
            List.filter_eq_nil_iff.mpr (by simp)
          refine ⟨obs.map Kind.observer ++ extra, ?_, ?_, ?_⟩
          · rw [hnodes, attachObservers_nodes, List.append_assoc]
          · rw [List.filter_append, hall, List.length_append, List.length_map, hobs, Nat.add_mul]
            omega
          · rw [List.filter_append, hnone, List.nil_append, hbr]

theorem inject_nodes : ∀ (xs : List Nat) (g : Graph),
    (xs.foldl injectOne g).nodes = g.nodes ++ List.replicate (injected g xs) Kind.branch
  | [], g => by simp [injected]
  | x :: xs, g => by
    rw [List.foldl_cons, inject_nodes xs]
    simp only [injected]
    cases hc : (((g.succs x).filter
        (fun m => g.kind m == .okMatch || g.kind m == .errMatch)).length != 2) with
    | true =>
      rw [injectOne_nodes_not g x hc]
      rfl
    | false =>
      rw [injectOne_eq g x (by simpa [matcherSuccs] using hc)]
      simp [List.replicate_succ]

/-- **C06 (j) — `enforce_invariants`, proved**: in the graph pavexc generates code from, the number of
    observer nodes is the number of `MatchBranching` nodes times the number of observers — for every graph `g`
    without observers and branching nodes yet, *provided* every error whose matchers get a `MatchBranching`
    node also has its error handler reached by the splice (`fired = injected`; this is what the fixed point of
    `build_call_graph` delivers — one handler per fallible node, each with its `IntoResponse` child and its
    `pavex::Error::new` — and what the check validates on every real graph). -/
theorem n_observers_invariant_partial (obs : List Nat) (g : Graph)
    (h0 : countKind g isObserver = 0) (hb : countKind g (· == .branch) = 0)
    (hfix : fired obs g (ehNodes g) * obs.length =
      injected (spliceAll obs g) (fallibleNodes (spliceAll obs g)) * obs.length) :
    invariantHolds (injectBranching (spliceAll obs g)) obs.length = true := by
  obtain ⟨extra, hnodes, hobs, hbr⟩ := splice_nodes obs (ehNodes g) g
  have hn : (injectBranching (spliceAll obs g)).nodes =
      g.nodes ++ extra ++ List.replicate (injected _ _) .branch :=
    (inject_nodes _ _).trans (congrArg (· ++ _) hnodes)
  have hr1 (n : Nat) : ((List.replicate n Kind.branch).filter isObserver).length = 0 := by
    simp [isObserver]
  have hr2 (n : Nat) : ((List.replicate n Kind.branch).filter (· == .branch)).length = n := by
    simp
  simp only [countKind] at h0 hb
  simp only [invariantHolds, countKind, hn, List.filter_append, List.length_append, h0, hb, hobs,
    hbr, hr1, hr2, Nat.zero_add, Nat.add_zero, hfix, beq_self_eq_true]

/-- **C06 (j′) — `enforce_invariants` from static hypotheses on the graph before the splice**: no observer
    or branching node yet; every edge joins two nodes; every error handler has its `IntoResponse` child (not a
    matcher) and its `pavex::Error::new`; every fallible node has its two matchers; one error handler per
    fallible node. Then, for every list of observers, after the splice and the branching injection the
    number of observer nodes is the number of `MatchBranching` nodes times the number of observers.
    (The splice fires for every handler because attaching observers to one handler leaves what it looks at
    for the others untouched — `Ext`; likewise for the injection — `Rel`.) -/
theorem n_observers_invariant (obs : List Nat) (g : Graph) (hc : Closed g)
    (h0 : countKind g isObserver = 0) (hb : countKind g (· == .branch) = 0)
    (hel : obs.isEmpty = false → Eligible g (ehNodes g))
    (hchild : ∀ x ∈ ehNodes g, ∀ c, (g.succs x).head? = some c → g.kind c ≠ .errMatch)
    (hfall : ∀ x ∈ fallibleNodes g, (matcherSuccs g x).length = 2)
    (hone : (ehNodes g).length = (fallibleNodes g).length) :
    invariantHolds (injectBranching (spliceAll obs g)) obs.length = true := by
  apply n_observers_invariant_partial obs g h0 hb
  cases hne : obs.isEmpty with
  | true =>
    have : obs = [] := by simpa using hne
    subst this
    simp
  | false =>
    obtain ⟨hf, hext⟩ := splice_fired obs hne g hc (ehNodes g) g (ehNodes g) (fun _ h => h)
      (Ext.refl _ g) (hel hne)
    have hC : ∀ d, ChildOf g (ehNodes g) d → d < g.size ∧ g.kind d ≠ .errMatch := by
      rintro d ⟨x, hx, hd⟩
      exact ⟨succs_lt hc (List.mem_of_mem_head? hd), hchild x hx d hd⟩
    have hfn : fallibleNodes (spliceAll obs g) = fallibleNodes g := hext.fallibleNodes_eq hc hC
    have hinj : injected (spliceAll obs g) (fallibleNodes (spliceAll obs g)) =
        (fallibleNodes g).length := by
      rw [hfn]
      apply injected_eq_length (spliceAll obs g) (fallibleNodes g) (spliceAll obs g) [] (Rel.refl _)
      · exact List.Nodup.sublist List.filter_sublist List.nodup_range
      · intro x hx
        have hxlt : x < g.size := List.mem_range.mp (List.mem_filter.mp hx).1
        refine ⟨Nat.lt_of_lt_of_le hxlt hext.size_le, by simp, ?_⟩
        rw [show spliceAll obs g = splice obs g (ehNodes g) from rfl,
          hext.matcherSuccs_eq hc x hxlt]
        exact hfall x hx
    rw [hf, hinj, hone]

/-- the same, from the executable check the driver evaluates on every real graph (with the observers and
    branching nodes removed). -/
theorem n_observers_invariant_of_check (obs : List Nat) (g : Graph) (h : spliceReady g (!obs.isEmpty) = true) :
    invariantHolds (injectBranching (spliceAll obs g)) obs.length = true := by
  simp only [spliceReady, Bool.and_eq_true, beq_iff_eq] at h
  obtain ⟨⟨⟨⟨⟨hc, h0⟩, hb⟩, hel⟩, hfall⟩, hone⟩ := h
  have hel' := List.all_eq_true.mp hel
  have hclosed : Closed g := by
    intro e he
    have := List.all_eq_true.mp hc e he
    simpa using this
  have heligible : obs.isEmpty = false → Eligible g (ehNodes g) := by
    intro hne x hx
    have := hel' x hx
    simp only [Bool.and_eq_true, decide_eq_true_eq, hne, Bool.not_false, Bool.not_true,
      Bool.false_or] at this
    obtain ⟨⟨⟨hlt, hchild⟩, henew⟩, -⟩ := this
    exact ⟨hlt, hchild, henew⟩
  have hchild : ∀ x ∈ ehNodes g, ∀ c, (g.succs x).head? = some c →
      g.kind c ≠ .errMatch := by
    intro x hx c hcx
    have := hel' x hx
    simp only [Bool.and_eq_true, hcx, bne_iff_ne] at this
    exact this.2
  have hmatchers : ∀ x ∈ fallibleNodes g, (matcherSuccs g x).length = 2 := by
    intro x hx
    have := List.all_eq_true.mp hfall x hx
    simpa using this
  exact n_observers_invariant obs g hclosed h0 hb heligible hchild hmatchers hone

/-! ### non-vacuity: a handler that takes `&T0` and returns `Result`, with a specific error handler and
two observers; the constructor of `T0` is fallible too (fallback handler).

positions: 0 `c0` · 1 `match` · 2 Err(c0) · 3 `Error::new` · 4 default handler · 5 o0 · 6 o1 · 7 into_response ·
8 Ok(c0) · 9 `h0` · 10 `match` · 11 Err(h0) · 12 x3 · 13 `Error::new` · 14 o0 · 15 o1 · 16 into_response ·
17 Ok(h0) · 18 into_response -/
def demo : Graph :=
  ⟨[.ctor 0, .branch, .errMatch, .errorNew, .ehDefault, .observer 0, .observer 1, .intoResponse,
    .okMatch, .handler 0, .branch, .errMatch, .eh 3, .errorNew, .observer 0, .observer 1, .intoResponse,
    .okMatch, .intoResponse],
   [⟨0, 1, .move⟩, ⟨1, 2, .move⟩, ⟨1, 8, .move⟩, ⟨2, 3, .move⟩, ⟨3, 4, .shared⟩, ⟨3, 5, .shared⟩, ⟨3, 6, .shared⟩,
    ⟨5, 6, .before⟩, ⟨6, 7, .before⟩, ⟨4, 7, .move⟩, ⟨8, 9, .shared⟩, ⟨9, 10, .move⟩, ⟨10, 11, .move⟩,
    ⟨10, 17, .move⟩, ⟨11, 12, .shared⟩, ⟨11, 13, .move⟩, ⟨13, 14, .shared⟩, ⟨13, 15, .shared⟩, ⟨14, 15, .before⟩,
    ⟨15, 16, .before⟩, ⟨12, 16, .move⟩, ⟨17, 18, .move⟩]⟩

example : armsWF demo = true := by decide +kernel
example : armShape demo 10 (.eh 3) false [0, 1] = true ∧ armShape demo 1 .ehDefault true [0, 1] = true := by decide +kernel
-- nothing fails: the constructor, then the handler
example : outOf demo (fun _ => false) (runGraph demo (fun _ => false)).1 =
    [.call 0 (.ctor 0), .call 9 (.handler 0), .call 18 .intoResponse] := by decide +kernel
-- the handler fails: its own error handler, then the two observers, in order, then the response
example : let fails := fun k => k == Kind.handler 0
    outOf demo fails (runGraph demo fails).1 =
      [.call 0 (.ctor 0), .fail 9 (.handler 0), .call 12 (.eh 3), .call 13 .errorNew,
       .call 14 (.observer 0), .call 15 (.observer 1), .call 16 .intoResponse] ∧
    (runGraph demo fails).1.errs = [11] ∧ (runGraph demo fails).1.chosen = [11, 8] := by decide +kernel
-- the constructor fails (and the handler would): only the first failure matters, the handler never runs
example : let fails := fun k => k == Kind.handler 0 || k == Kind.ctor 0
    outOf demo fails (runGraph demo fails).1 =
      [.fail 0 (.ctor 0), .call 3 .errorNew, .call 4 .ehDefault, .call 5 (.observer 0), .call 6 (.observer 1),
       .call 7 .intoResponse] ∧ (runGraph demo fails).1.errs = [2] := by decide +kernel
-- the hypotheses of `ok_dependants_skipped` / `handler_once` / `observers_once_in_order` are satisfiable
example : scrutinee demo 1 = some 0 ∧ 8 ∈ demo.succs 1 ∧ demo.kind 8 = .okMatch ∧
    DataPath demo 8 9 ∧ 11 ∈ ehMatchers demo 12 ∧ demo.dataPreds 16 = [12] :=
  ⟨by decide +kernel, by decide +kernel, by decide +kernel, .single (by decide +kernel),
    by decide +kernel, by decide +kernel⟩

/-- `demo` before the splice and the branching: 0 `c0` · 1 Err(c0) · 2 `Error::new` · 3 default handler ·
    4 into_response · 5 Ok(c0) · 6 `h0` · 7 Err(h0) · 8 x3 · 9 `Error::new` · 10 into_response · 11 Ok(h0) ·
    12 into_response -/
def demo0 : Graph :=
  ⟨[.ctor 0, .errMatch, .errorNew, .ehDefault, .intoResponse, .okMatch, .handler 0, .errMatch, .eh 3, .errorNew,
    .intoResponse, .okMatch, .intoResponse],
   [⟨0, 1, .move⟩, ⟨0, 5, .move⟩, ⟨1, 2, .move⟩, ⟨2, 3, .shared⟩, ⟨3, 4, .move⟩, ⟨5, 6, .shared⟩, ⟨6, 7, .move⟩,
    ⟨6, 11, .move⟩, ⟨7, 8, .shared⟩, ⟨7, 9, .move⟩, ⟨8, 10, .move⟩, ⟨11, 12, .move⟩]⟩

-- the hypotheses of `n_observers_invariant_partial` hold on it: two errors, two handlers reached, 2 × 2 observers
example : countKind demo0 isObserver = 0 ∧ countKind demo0 (· == .branch) = 0 ∧
    fired [0, 1] demo0 (ehNodes demo0) = 2 ∧
    injected (spliceAll [0, 1] demo0) (fallibleNodes (spliceAll [0, 1] demo0)) = 2 ∧
    countKind (injectBranching (spliceAll [0, 1] demo0)) isObserver = 4 := by decide +kernel
example : spliceReady demo0 true = true := by decide +kernel
-- the static hypotheses of `n_observers_invariant` hold on it as well
example : Closed demo0 ∧ Eligible demo0 (ehNodes demo0) ∧
    (∀ x ∈ ehNodes demo0, ∀ c, (demo0.succs x).head? = some c → demo0.kind c ≠ .errMatch) ∧
    (∀ x ∈ fallibleNodes demo0, (matcherSuccs demo0 x).length = 2) ∧
    (ehNodes demo0).length = (fallibleNodes demo0).length :=
  ⟨by decide +kernel, by decide +kernel, by decide +kernel, by decide +kernel,
    by decide +kernel⟩
-- and the graph the model builds has well-formed arms of the predicted shape
example : let g := injectBranching (spliceAll [0, 1] demo0)
    oneParent g = true ∧
    armShape g 17 .ehDefault true [0, 1] = true ∧ armShape g 18 (.eh 3) false [0, 1] = true := by decide +kernel

/-! ### a clause that does *not* hold: "every failure is handled"

`handler_once` needs the Err arm of the failed node to be entered. The generated code does not always enter
it: a node that only an error arm needs is emitted in the basic block in front of the `MatchBranching` node
of *that* arm's parent (the visitor takes every node that can reach one of the block's terminals, error
terminals included), so its `Result` is computed — and, if the arm is not entered, never inspected.
Witness (↔ corpus/C06/006, reproduced on the real pavexc): `c0` is only needed by the error handler of `c1`.

positions: 0 shared input · 1 `c0` · 2 `c1` · 3 `match c1` · 4 Err(c1) · 5 `match c0` · 6 Err(c0) · 7 `Error::new` ·
8 default handler · 9 into_response · 10 Ok(c0) · 11 x0 (handler of c1's error, takes `&T0`) · 12 into_response ·
13 Ok(c1) · 14 `h0` · 15 into_response -/
def swallowed : Graph :=
  ⟨[.input, .ctor 0, .ctor 1, .branch, .errMatch, .branch, .errMatch, .errorNew, .ehDefault, .intoResponse,
    .okMatch, .eh 0, .intoResponse, .okMatch, .handler 0, .intoResponse],
   [⟨0, 1, .shared⟩, ⟨0, 2, .shared⟩, ⟨1, 5, .move⟩, ⟨5, 6, .move⟩, ⟨5, 10, .move⟩, ⟨6, 7, .move⟩, ⟨7, 8, .shared⟩,
    ⟨8, 9, .move⟩, ⟨2, 3, .move⟩, ⟨3, 4, .move⟩, ⟨3, 13, .move⟩, ⟨4, 11, .shared⟩, ⟨10, 11, .shared⟩, ⟨11, 12, .move⟩,
    ⟨13, 14, .shared⟩, ⟨14, 15, .move⟩]⟩

/-- the full-strength reading of "the error handler runs exactly once on that error": whenever a component
    returned `Err`, an error handler ran. -/
def every_failure_handled_statement : Prop :=
  ∀ (g : Graph) (fails : Kind → Bool), armsWF g = true → (runGraph g fails).1.stuck = false →
    ∀ e ∈ outOf g fails (runGraph g fails).1, (∃ n k, e = .fail n k) →
      ∃ e' ∈ outOf g fails (runGraph g fails).1, isEh e'.kind = true

/-- the run in question: `c0` fails, `c1` and the handler run, no error arm is entered -/
theorem swallowed_run : runGraph swallowed (fun k => k == .ctor 0) =
    (⟨[15, 14, 13, 3, 2, 1, 0], [0, 1, 2, 14, 15], [], [13], false⟩, some 15) := by decide +kernel

theorem swallowed_out : outOf swallowed (fun k => k == .ctor 0) (runGraph swallowed (fun k => k == .ctor 0)).1 =
    [.call 0 .input, .fail 1 (.ctor 0), .call 2 (.ctor 1), .call 14 (.handler 0), .call 15 .intoResponse] := by
  rw [swallowed_run]; decide +kernel

/-- **finding**: it is false for the faithful model (and for the real code: known finding
    `C06-swallowed-speculative-failure`): `c0` fails, nobody looks at its `Result`, the request is served
    normally. What holds is `handler_once`: *if the Err arm is entered*, its handler runs exactly once. -/
theorem every_failure_handled_statement_false : ¬ every_failure_handled_statement := by
  intro h
  have hwf : armsWF swallowed = true := by decide +kernel
  have hrun : (runGraph swallowed (fun k => k == .ctor 0)).1.stuck = false := by
    rw [swallowed_run]
  have hfail : Ev.fail 1 (.ctor 0) ∈
      outOf swallowed (fun k => k == .ctor 0) (runGraph swallowed (fun k => k == .ctor 0)).1 := by
    rw [swallowed_out]
    decide
  -- yet none of the five events of the run is the call of an error handler
  have := h swallowed (fun k => k == .ctor 0) hwf hrun (.fail 1 (.ctor 0)) hfail ⟨1, .ctor 0, rfl⟩
  rw [swallowed_out] at this
  revert this
  decide

example : outOf swallowed (fun k => k == .ctor 0) (runGraph swallowed (fun k => k == .ctor 0)).1 =
    [.call 0 .input, .fail 1 (.ctor 0), .call 2 (.ctor 1), .call 14 (.handler 0), .call 15 .intoResponse] ∧
    (runGraph swallowed (fun k => k == .ctor 0)).1.errs = [] := ⟨swallowed_out, by rw [swallowed_run]⟩
-- when `c1` fails as well, the arm that needs `T0` is entered and `c0`'s error is the one that is handled
example : let fails := fun k => k == Kind.ctor 0 || k == Kind.ctor 1
    (outOf swallowed fails (runGraph swallowed fails).1).filter (fun e => isEh e.kind) = [.call 8 .ehDefault] := by
  decide +kernel

/-! ### non-vacuity of the pipeline theorems (C06 (d)–(h′)): the route `h0` of `demo` behind `wrap m2`, `pre m3` and `post m1` -/

def gPost : Graph := ⟨[.input, .mw 1, .intoResponse], [⟨0, 1, .move⟩, ⟨1, 2, .move⟩]⟩
def gPre : Graph := ⟨[.mw 3], []⟩
def gWrap : Graph := ⟨[.other, .other, .mw 2, .intoResponse], [⟨0, 1, .move⟩, ⟨1, 2, .move⟩, ⟨2, 3, .move⟩]⟩
def gNoop : Graph := ⟨[.other, .other, .noop, .intoResponse], [⟨0, 1, .move⟩, ⟨1, 2, .move⟩, ⟨2, 3, .move⟩]⟩

def demoEnv (failing : List Kind) (early : List Nat) : Env :=
  ⟨fun k => match k with
    | .handler _ => demo | .mw 1 => gPost | .mw 3 => gPre | .mw 2 => gWrap | _ => gNoop,
   fun k => failing.contains k, fun p => early.contains p, fun k => 520 + k⟩

def demoChain : List Mw := [⟨.wrap, 2⟩, ⟨.post, 1⟩, ⟨.pre, 3⟩]

-- nothing fails
example : runRoute (demoEnv [] []) demoChain 0 =
    ⟨[.wrapStart 2, .pre 3, .ctor 0, .handler 0, .post 1, .wrapEnd 2], 200, false⟩ := by decide +kernel
-- the handler fails: its handler x3, the observers, then the remaining post-processing and the enclosing
-- wrapping middleware resume; the client sees x3's status
example : runRoute (demoEnv [.handler 0] []) demoChain 0 =
    ⟨[.wrapStart 2, .pre 3, .ctor 0, .failHandler 0, .eh 3, .observer 0, .observer 1, .post 1, .wrapEnd 2], 523, false⟩ := by
  decide +kernel
-- the constructor fails: the framework's handler (500), the handler `h0` never runs
example : runRoute (demoEnv [.ctor 0, .handler 0] []) demoChain 0 =
    ⟨[.wrapStart 2, .pre 3, .failCtor 0, .observer 0, .observer 1, .post 1, .wrapEnd 2], 500, false⟩ := by decide +kernel
-- the wrapping middleware itself fails: nothing inside it runs (its graph here has no error arm, so its
-- closure ends normally and the whole result is `⟨[.failMw 2], 0, false⟩`: no error handler, status 0)
example : (runRoute (demoEnv [.mw 2] []) demoChain 0).evs = [.failMw 2] := by decide +kernel

end Pxv.Err
