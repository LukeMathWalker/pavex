import Pxv.Model.Pipeline
/-!
C05 — middlewares and handler run in the documented order.
`run` mirrors what pavexc generates (chain → stages → nested stage functions); `doc` is the
order the guide describes. All theorems are for every chain, every nesting, every early-return
choice.
-/
namespace Pxv.Pipe

theorem runPres_append (early : Nat → Bool) (a b : List Nat) (k : List Event) :
    runPres early (a ++ b) k = runPres early a (runPres early b k) := by
  induction a with
  | nil => rfl
  | cons p ps ih => simp only [List.cons_append, runPres, ih]

/-- The generated stages with `group`'s accumulators still open, one wrapping scope at a time. -/
theorem runStages_group (early : Nat → Bool) (h : Nat) (ms : List Mw) (pres posts : List Nat) :
    runStages early (group ms pres posts h) =
      runPres early (pres ++ presOf (splitWrap ms).1)
        (match (splitWrap ms).2 with
         | none => [.handler h]
         | some (w, rest) => [.wrapStart w] ++ run early rest h ++ [.wrapEnd w])
      ++ (posts ++ postsOf (splitWrap ms).1).map .post := by
  fun_induction group ms pres posts h with  -- the cases of `group`: `[]`, a pre, a post, a wrap
  | case1 => simp [splitWrap, presOf, postsOf, runStages]
  | case2 m ms pres posts h hk ih | case3 m ms pres posts h hk ih =>
    rw [ih]
    simp [splitWrap, presOf, postsOf, hk, List.append_assoc]
  | case4 m ms pres posts h hk => simp [hk, splitWrap, presOf, postsOf, runStages, run, stages]

/-- `run` satisfies the recursion that defines `doc`. -/
theorem run_unfold (early : Nat → Bool) (chain : List Mw) (h : Nat) :
    run early chain h =
      runPres early (presOf (splitWrap chain).1)
        (match (splitWrap chain).2 with
         | none => [.handler h]
         | some (w, rest) => [.wrapStart w] ++ run early rest h ++ [.wrapEnd w])
      ++ (postsOf (splitWrap chain).1).map .post :=
  runStages_group early h chain [] []

theorem splitWrap_rest_length (ms : List Mw) :
    ∀ w rest, (splitWrap ms).2 = some (w, rest) → rest.length < ms.length := by
  fun_induction splitWrap ms with
  | case1 => nofun
  | case2 m ms hk =>
    rintro w rest ⟨⟩
    exact Nat.lt_succ_self _
  | case3 m ms hk r ih => exact fun w rest h => Nat.lt_succ_of_lt (ih w rest h)

/-- **C05 (1) — the generated pipeline runs in the documented order**: for every chain of
    registrations, every handler and every early-return choice, the event sequence of the code
    pavexc generates equals the order the guide prescribes. -/
theorem run_eq_doc (early : Nat → Bool) (chain : List Mw) (h : Nat) :
    ∀ fuel, chain.length < fuel → run early chain h = doc early fuel chain h := by
  intro fuel
  induction fuel generalizing chain with
  | zero => exact nofun
  | succ f ih =>
    intro hlt
    rw [run_unfold]
    simp only [doc]
    cases hs : (splitWrap chain).2 with
    | none => rfl
    | some wr =>
      obtain ⟨w, rest⟩ := wr
      simp only [ih rest (by have := splitWrap_rest_length chain w rest hs; omega)]

theorem runPres_noEarly {early : Nat → Bool} {ps : List Nat} (h : ∀ q ∈ ps, early q = false)
    (k : List Event) :
    runPres early ps k = ps.map .pre ++ k := by
  induction ps with
  | nil => rfl
  | cons a l ih => simp [runPres, h a (by simp), ih fun q hq => h q (by simp [hq])]

/-- the identity of the component an event starts, if any -/
def startOf : Event → Option Nat
  | .pre p => some p
  | .wrapStart w => some w
  | _ => none

theorem starts_group (h : Nat) (ms : List Mw) (pres posts : List Nat) :
    (runStages (fun _ => false) (group ms pres posts h)).filterMap startOf =
      pres ++ (ms.filter (·.kind != .post)).map (·.id) := by
  have hpre (l : List Nat) : (l.map Event.pre).filterMap startOf = l := by
    rw [List.filterMap_map, show startOf ∘ Event.pre = some from rfl, List.filterMap_some]
  fun_induction group ms pres posts h with
  | case1 => simp [runStages, runPres_noEarly, List.filterMap_append, hpre, startOf]
  | case2 m ms pres posts h hk ih | case3 m ms pres posts h hk ih => simp [hk, ih]
  | case4 m ms pres posts h hk ih =>
    simp [hk, runStages, runPres_noEarly, List.filterMap_append, hpre, ih, startOf]

/-- **C05 (2)**: when nobody returns early, the pre-processing and wrapping middlewares start in
    exactly their registration order (post-processors do not take part). -/
theorem starts_in_registration_order (chain : List Mw) (h : Nat) :
    (run (fun _ => false) chain h).filterMap startOf =
      (chain.filter (·.kind != .post)).map (·.id) :=
  starts_group h chain [] []

theorem count_handler_map (h : Nat) (f : Nat → Event) (hf : ∀ x, f x ≠ .handler h)
    (l : List Nat) :
    (l.map f).count (.handler h) = 0 :=
  List.count_eq_zero.mpr fun hm => by
    obtain ⟨x, _, hx⟩ := List.mem_map.mp hm
    exact hf x hx

theorem count_handler_runPres (early : Nat → Bool) (h : Nat) (pres : List Nat) (k : List Event) :
    (runPres early pres k).count (.handler h) ≤ k.count (.handler h) := by
  induction pres with
  | nil => exact Nat.le_refl _
  | cons p ps ih =>
    simp only [runPres]
    cases early p
    · simpa [List.count_cons] using ih
    · simp

/-- **C05 (3)**: the handler runs at most once, whatever the middlewares decide … -/
theorem handler_at_most_once (early : Nat → Bool) (ms : List Mw) (pres posts : List Nat) (h : Nat) :
    (runStages early (group ms pres posts h)).count (.handler h) ≤ 1 := by
  fun_induction group ms pres posts h with
  | case1 pres posts h =>
    simp only [runStages, List.count_append, count_handler_map h .post nofun, Nat.add_zero]
    exact Nat.le_trans (count_handler_runPres early h pres _) (by simp)
  | case2 _ _ _ _ _ _ ih | case3 _ _ _ _ _ _ ih => exact ih
  | case4 m ms pres posts h _ ih =>
    simp only [runStages, List.count_append, count_handler_map h .post nofun, Nat.add_zero]
    refine Nat.le_trans (count_handler_runPres early h pres _) ?_
    simpa [List.count_append, List.count_cons] using ih

/-- … and exactly once when nobody returns early. -/
theorem handler_exactly_once (chain : List Mw) (h : Nat) :
    (run (fun _ => false) chain h).count (.handler h) = 1 := by
  suffices hg : ∀ pres posts,
      (runStages (fun _ => false) (group chain pres posts h)).count (.handler h) = 1 from
    hg [] []
  intro pres posts
  fun_induction group chain pres posts h with
  | case1 pres posts h =>
    simp [runStages, runPres_noEarly, List.count_append, count_handler_map h .post,
      count_handler_map h .pre]
  | case2 _ _ _ _ _ _ ih | case3 _ _ _ _ _ _ ih => exact ih
  | case4 m ms pres posts h _ ih =>
    simpa [runStages, runPres_noEarly, List.count_append, count_handler_map h .post,
      count_handler_map h .pre, List.count_cons] using ih

/-- **C05 (4)**: an early return cuts everything that follows it inside its scope: the later
    pre-processors and the continuation `k` (the wrapping middleware with all it contains, or the
    handler). The post-processors of the scope stand outside `k` in `runStages`, so they still run
    (second example below). -/
theorem early_cuts_scope (early : Nat → Bool) (seg : List Nat) (p : Nat) (more : List Nat)
    (k : List Event) (hseg : ∀ q ∈ seg, early q = false) (hp : early p = true) :
    runPres early (seg ++ p :: more) k = seg.map .pre ++ [.pre p, .early p] := by
  rw [runPres_append, runPres_noEarly hseg, runPres, if_pos hp]

theorem splitWrap_append_wrap (seg rest : List Mw) (w : Nat) (hseg : ∀ m ∈ seg, m.kind ≠ .wrap) :
    splitWrap (seg ++ ⟨.wrap, w⟩ :: rest) = (seg, some (w, rest)) := by
  induction seg with
  | nil => rfl
  | cons a l ih =>
    have := ih fun m hm => hseg m (by simp [hm])
    cases hk : a.kind with
    | wrap => exact absurd hk (hseg a (by simp))
    | pre | post => simp [splitWrap, hk, this]

/-- **C05 (5)**: what encloses a wrapping middleware does not depend on what happens inside it: the
    outer pre-processors ran before it started and the outer post-processors run after it ended,
    whichever early returns happen inside. -/
theorem outer_scope_independent (early : Nat → Bool) (seg rest : List Mw) (w h : Nat)
    (hseg : ∀ m ∈ seg, m.kind ≠ .wrap) (hne : ∀ m ∈ seg, m.kind = .pre → early m.id = false) :
    run early (seg ++ ⟨.wrap, w⟩ :: rest) h =
      (presOf seg).map .pre ++ [.wrapStart w] ++ run early rest h ++ [.wrapEnd w] ++
      (postsOf seg).map .post := by
  rw [run_unfold, splitWrap_append_wrap seg rest w hseg, runPres_noEarly]
  · simp [List.append_assoc]
  · intro q hq
    simp only [presOf, List.mem_map, List.mem_filter, beq_iff_eq] at hq
    obtain ⟨m, ⟨hm, hk⟩, rfl⟩ := hq
    exact hne m hm hk

/-- **C05 (6) — scoping**: a route's chain is fixed at the moment the route is registered:
    nothing registered after it (in its own or an enclosing blueprint) can wrap it. -/
theorem after_route_invisible (h : Nat) (rest rest' : Bp) (c : List Mw) :
    (chains (.cons (.route h) rest) c).head? = (chains (.cons (.route h) rest') c).head? := by
  simp [chains]

/-- a nested blueprint starts from the chain its parent had when it was nested, and nothing it
    registers leaks to what the parent registers afterwards (siblings included). -/
theorem nested_is_snapshot (b rest : Bp) (c : List Mw) :
    chains (.cons (.nest b) rest) c = chains b c ++ chains rest c := by
  simp [chains]

theorem sibling_invisible (b1 b1' b2 rest : Bp) (c : List Mw) :
    ∃ pre pre', chains (.cons (.nest b1) (.cons (.nest b2) rest)) c = pre ++ chains b2 c ++ chains rest c ∧
      chains (.cons (.nest b1') (.cons (.nest b2) rest)) c = pre' ++ chains b2 c ++ chains rest c :=
  ⟨chains b1 c, chains b1' c, by simp [chains], by simp [chains]⟩

-- Non-vacuity: the scenarios of the guide's table.
-- wrap1, wrap2, post1, post2, pre1, pre2, route  (top_level of ui_tests/middlewares_execution_order)
example : run (fun _ => false)
    [⟨.wrap, 1⟩, ⟨.wrap, 2⟩, ⟨.post, 3⟩, ⟨.post, 4⟩, ⟨.pre, 5⟩, ⟨.pre, 6⟩] 0 =
    [.wrapStart 1, .wrapStart 2, .pre 5, .pre 6, .handler 0, .post 3, .post 4, .wrapEnd 2, .wrapEnd 1] := by
  decide +kernel
-- early return: wrap1, post1, pre(early), wrap2, pre2, post2, route
example : run (fun p => p == 9)
    [⟨.wrap, 1⟩, ⟨.post, 3⟩, ⟨.pre, 9⟩, ⟨.wrap, 2⟩, ⟨.pre, 6⟩, ⟨.post, 4⟩] 0 =
    [.wrapStart 1, .pre 9, .early 9, .post 3, .wrapEnd 1] := by decide +kernel
-- a middleware registered after the route, and one in a sibling blueprint, do not wrap it
example : chains (.cons (.mw ⟨.wrap, 1⟩) (.cons (.nest (.cons (.mw ⟨.pre, 2⟩) (.cons (.route 7) .nil)))
    (.cons (.route 8) (.cons (.mw ⟨.wrap, 3⟩) .nil)))) [] =
    [(7, [⟨.wrap, 1⟩, ⟨.pre, 2⟩]), (8, [⟨.wrap, 1⟩])] := by decide +kernel

end Pxv.Pipe
