import Pxv.Model.Borrow
import Pxv.Model.Generate
import Pxv.Thm.C02
/-!
C09 — the compiler always terminates with a verdict and fails atomically (the modelled part).

* every loop of the modelled passes is a Lean definition accepted by the termination checker
  (`orderLoop`, `reachFrom`, `held`: structural on explicit fuel bounded by the graph size);
* `order_never_stuck_of_run` (Thm/C02): the one `unreachable!` of the ordering step is dead whenever
  borrow checking left a graph with a legal order;
* below: the verdict is total and a rejected blueprint writes nothing; the strategy loop of `complex_borrow_check`
  (`Ctl`, Model/Borrow.lean) ends once the call graph stops changing, and did not before the repair 819c099.
-/
namespace Pxv.Gen

theorem finish_verdict (s : Writer × FS) :
    (finish s).exit = 0 ∨ ((finish s).exit ≠ 0 ∧ (finish s).reports ≥ 1) := by
  unfold finish
  split
  · exact Or.inl rfl
  · -- `verify` fails only in check mode with a non-empty `outdated` list, which is what gets reported
    rename_i hv
    refine Or.inr ⟨by simp, List.length_pos_iff.mpr fun ho => hv ?_⟩
    simp only [Writer.verifyOk, ho, List.isEmpty_nil]
    split <;> rfl

/-- **verdict**: exit 0, or non-zero with at least one error report. -/
theorem verdict_total (b : Build) (m : Mode) (fs : FS) :
    (generate b m fs).exit = 0 ∨ ((generate b m fs).exit ≠ 0 ∧ (generate b m fs).reports ≥ 1) := by
  unfold generate
  split
  · -- rejected: every error diagnostic is reported, and there is at least one
    rename_i herr
    exact Or.inr ⟨by simp, herr⟩
  · split
    · -- code generation failed: one report
      exact Or.inr ⟨by simp, Nat.le_refl 1⟩
    · split
      · -- the generated `lib.rs` does not parse: one report
        exact Or.inr ⟨by simp, Nat.le_refl 1⟩
      · exact finish_verdict _

/-- **atomic failure**: when the blueprint is rejected (at least one error diagnostic), nothing at
    all is written — the SDK on disk, the workspace manifest and the diagnostics file are untouched —
    in update mode and in check mode alike. -/
theorem reject_atomic (b : Build) (m : Mode) (fs : FS) (h : b.errors > 0) :
    (generate b m fs).fs = fs ∧ (generate b m fs).exit = 1 ∧ (generate b m fs).reports = b.errors ∧
    (generate b m fs).writes = 0 := by
  simp [generate, h]

theorem persist_mode (w : Writer) (fs : FS) (p : String) (c : List Nat) :
    (w.persist fs p c).1.mode = w.mode := by
  unfold Writer.persist
  split <;> split <;> simp [*]

/-- an accepted blueprint whose code generation succeeds exits 0 in update mode. -/
theorem accept_exit0 (b : Build) (fs : FS) (h0 : b.errors = 0) (h1 : b.codegenOk = true)
    (h2 : b.libParses = true) : (generate b .update fs).exit = 0 := by
  have hd : ∀ s : Writer × FS, (stepDiag b s).1.mode = s.1.mode := by
    intro s
    unfold stepDiag
    split
    · exact persist_mode _ _ _ _
    · rfl
  -- no step changes the writer's mode, and in update mode `verify` always succeeds
  have : (stepLib b (stepManifests b (stepDiag b (⟨.update, [], 0⟩, fs)))).1.verifyOk = true := by
    simp [Writer.verifyOk, stepLib, stepManifests, persist_mode, hd]
  simp [generate, h0, h1, h2, finish, this]

-- Non-vacuity: a rejected and an accepted build on a small file system.
def exFS : FS := FS.ofList [("sdk/Cargo.toml", ⟨[1], 3⟩), ("sdk/src/lib.rs", ⟨[2], 5⟩)]
def exBuild (errs : Nat) : Build :=
  { errors := errs, diag := some ("d.dot", [9]), codegenOk := true, libParses := true,
    rootPath := "Cargo.toml", rootEdit := fun x => x ++ [7], sdkManifestPath := "sdk/Cargo.toml",
    sdkEdit := fun _ => [1], libPath := "sdk/src/lib.rs", lib := [2, 2] }
example : (generate (exBuild 2) .update exFS).fs = exFS ∧ (generate (exBuild 2) .update exFS).exit = 1 :=
  ⟨rfl, rfl⟩
example : (generate (exBuild 0) .update exFS).exit = 0 ∧
    (generate (exBuild 0) .update exFS).fs.get "sdk/src/lib.rs" = some ⟨[2, 2], 6⟩ ∧
    (generate (exBuild 0) .update exFS).fs.get "sdk/Cargo.toml" = some ⟨[1], 3⟩ := by decide +kernel

end Pxv.Gen

namespace Pxv.CG

/-- **with the repair**: once a round neither clones nor changes the number of parked nodes, the loop ends within six
    more rounds, whatever state it is in (in particular after earlier successful clones). -/
theorem complex_loop_terminates (c : Ctl) (n : Nat) : Ctl.stable true n 6 c = none := by
  obtain ⟨s, f, p⟩ := c
  cases hn : n == 0 with
  | true => simp [Ctl.stable, Ctl.next, hn]
  | false =>
    -- from `prev = some n` on the strategy walks park → clone → park (flag reset) → clone → error → break
    have h5 : ∀ s f, Ctl.stable true n 5 ⟨s, f, some n⟩ = none := by
      intro s f
      cases s <;> cases f <;>
        simp only [Ctl.stable, Ctl.next_same _ _ _ hn, Option.bind, Bool.not_true]
    -- the first round ends the loop or records `prev = some n`
    show (Ctl.next true ⟨s, f, p⟩ n false).bind _ = none
    cases hp : p == some n with
    | false => simpa [Ctl.next, hn, hp] using h5 s f
    | true =>
      obtain rfl : p = some n := by simpa using hp
      rw [Ctl.next_same _ _ _ hn]
      cases s <;> cases f <;> simp only [Option.bind, h5]

/-- **without it** (the code as it was): after one successful clone (`flag = true`) a call graph that still has parked
    nodes and nothing left to clone keeps the loop alive forever, alternating between parking and cloning. -/
theorem complex_loop_diverged (n : Nat) (hn : n ≠ 0) (k : Nat) :
    ∃ c', Ctl.stable false n k { strat := .park, flag := true, prev := some n } = some c' ∧ c'.flag = true ∧
      c'.prev = some n ∧ (c'.strat = .park ∨ c'.strat = .clone) := by
  have hn' : (n == 0) = false := by simp [hn]
  -- parking and cloning alternate: the induction runs over both starting strategies
  suffices ∀ s, s = .park ∨ s = .clone → ∃ c', Ctl.stable false n k ⟨s, true, some n⟩ = some c' ∧ c'.flag = true ∧
      c'.prev = some n ∧ (c'.strat = .park ∨ c'.strat = .clone) from this _ (Or.inl rfl)
  induction k with
  | zero => exact fun s hs => ⟨_, rfl, rfl, rfl, hs⟩
  | succ k ih =>
    rintro s (rfl | rfl)
    · simpa only [Ctl.stable, Ctl.next_same _ _ _ hn', Option.bind] using ih .clone (Or.inr rfl)
    · simpa only [Ctl.stable, Ctl.next_same _ _ _ hn', Option.bind, Bool.not_false]
        using ih .park (Or.inl rfl)

end Pxv.CG
