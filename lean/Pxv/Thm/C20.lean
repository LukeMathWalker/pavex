import Pxv.Model.Domain
import Pxv.Lemmas.Domain
import Pxv.Lemmas.DomainMatch
import Pxv.Lemmas.DomainOrder
import Pxv.Lemmas.Basic
/-!
C20 — domain guards accept exactly the hosts the documentation says.
-/
namespace Pxv.Domain

/-- **C20 (1)** A guard is accepted iff it is a syntactically valid, possibly templated, DNS name
    under the documented rules. For every string (no bound on its length or alphabet; parameter
    names are judged by the ASCII identifier rule `isIdent`). -/
theorem validate_iff (s : List Char) : validate s = .ok () ↔ Grammar s := by
  constructor
  · intro h
    by_cases hdot : s.getLast? = some '.'
    · obtain ⟨body, rfl⟩ := List.getLast?_eq_some_iff.mp hdot
      obtain ⟨n, hb, hn⟩ := (validate_ok_iff (by simp) (labelsOf_snoc_dot body)).mp h
      exact .absolute hb hn
    · have hs : s ≠ [] := by rintro rfl; cases h
      obtain ⟨n, hb, hn⟩ := (validate_ok_iff hs (labelsOf_of_last hdot)).mp h
      exact .relative hb hn
  · intro h
    cases h with
    | relative hb hn =>
      obtain ⟨hne, hlast⟩ := labelsG_last hb
      exact (validate_ok_iff hne (labelsOf_of_last hlast)).mpr ⟨_, hb, hn⟩
    | absolute hb hn => exact (validate_ok_iff (by simp) (labelsOf_snoc_dot _)).mpr ⟨_, hb, hn⟩

/-- **C20 (2)** An accepted guard matches a host exactly when the host fits it: the router that
    holds the guard's `matchit_pattern` (of the stored, normalised guard) answers for the
    normalised `Host` iff `Fits g h` — literal labels equal, `{p}` a non-empty leading part of one
    label, a leading `{*p}` one or more labels, one trailing dot ignored on either side.
    For every grammatical guard and every host (`'/' ∉ h`: `http::uri::Authority` guarantees it). -/
theorem match_iff (g h : List Char) (hg : Grammar g) (hh : '/' ∉ h) :
    matches1 (pattern (trimDots g)) (normHost h) = true ↔ Fits g h := by
  obtain ⟨body, n, hb, _, htrim, hstrip⟩ := grammar_body hg
  obtain ⟨gls, hne, hwf, hbody, _, htail⟩ := labelsG_struct hb
  have hca : ∀ x ∈ gls.reverse.dropLast, x.isCatchAll = false := by
    intro x hx
    rw [List.dropLast_reverse] at hx
    exact htail x (by simpa using hx)
  unfold matches1 Fits guardLabels
  rw [htrim, hstrip, hbody, pattern_struct hwf,
    parsePat_struct (G := gls.reverse) (by simpa using hne)
      (fun x hx => hwf x (by simpa using hx)) hca,
    path_normHost hh, guardLabels_of_struct hne hwf]
  exact segsMatch_iff_fitsFrom gls.reverse (hostLabels h).reverse

/-- Strings with the verdict `validate` gives them: two accepted, five rejected with five different
    errors (of the thirteen of `Err`). -/
def validateVectors : List (String × Except Err Unit) :=
  [("{sub}.example.com.", .ok ()),
   ("{*any}.{sub}b.example.com", .ok ()),
   ("a..b", .error .emptyLabel),
   ("sub.{*all}.domain.com", .error .catchAllNotAtStart),
   ("some{id}.domain.com", .error .paramNotAtStart),
   ("{fn}.com", .error .invalidParamName),
   ("{a}{b}.com", .error .tooManyParams)]

/-- Evaluated together: `isIdent` makes the kernel decode the whole keyword table, which it does
    once per declaration. -/
theorem validate_vectors : ∀ v ∈ validateVectors, validate v.1.toList = v.2 := by decide +kernel

example : validate "{sub}.example.com.".toList = .ok () :=
  validate_vectors (_, _) (by simp [validateVectors])
example : Grammar "{*any}.{sub}b.example.com".toList :=
  (validate_iff _).mp (validate_vectors (_, _) (by simp [validateVectors]))
example : validate "a..b".toList = .error .emptyLabel :=
  validate_vectors (_, _) (by simp [validateVectors])
example : validate "sub.{*all}.domain.com".toList = .error .catchAllNotAtStart :=
  validate_vectors (_, _) (by simp [validateVectors])
example : validate "some{id}.domain.com".toList = .error .paramNotAtStart :=
  validate_vectors (_, _) (by simp [validateVectors])
example : validate "{fn}.com".toList = .error .invalidParamName :=
  validate_vectors (_, _) (by simp [validateVectors])
example : ¬ Grammar "{a}{b}.com".toList := fun hg => by
  have hv : validate "{a}{b}.com".toList = .error .tooManyParams :=
    validate_vectors (_, _) (by simp [validateVectors])
  rw [(validate_iff _).mpr hg] at hv
  cases hv

-- A templated guard in absolute form fits a host with a trailing dot, and not one that leaves
-- `{sub}` nothing (`Fits` is decided by running `segsMatch` on the labels).
example : Fits "{*any}.{sub}b.example.com.".toList "a.b.cb.example.com.".toList := by decide +kernel
example : ¬ Fits "{*any}.{sub}b.example.com.".toList "b.example.com".toList := by decide +kernel
-- one trailing dot is ignored, two are not
example : ¬ Fits "a.com".toList "a.com..".toList := by decide +kernel

/-- What the router sees of an accepted guard (`guardNew`: what `DomainGuard::new` stores): its
    pattern parses (the modelled `matchit` family is closed under `matchit_pattern`), and fitting
    hosts are exactly the matching paths. -/
theorem fits_gives_route {g d h : List Char} (hnew : guardNew g = .ok d) (hh : '/' ∉ h)
    (hf : Fits g h) :
    ∃ p, parsePat (pattern d) = some p ∧ segsMatch p (splitSlash (normHost h)) = true := by
  unfold guardNew at hnew
  split at hnew
  · cases hnew
  rename_i hv
  cases hnew
  have := (match_iff g h ((validate_iff g).mp hv) hh).mpr hf
  unfold matches1 at this
  split at this
  · cases this
  · exact ⟨_, ‹_›, this⟩

/-- **C20 (3)** Two accepted guards with a common fitting host are either in conflict — and then
    `insert` of the second one answers `Conflict`, whichever comes first, i.e. the compiler rejects
    the pair — or strictly ordered by specificity (one of them is searched before the other on every
    host). This is the part of "two guards that can match the same host are rejected" that holds:
    see `no_two_candidates_statement_false` below. -/
theorem conflict_or_ordered (g1 g2 d1 d2 h : List Char)
    (h1 : guardNew g1 = .ok d1) (h2 : guardNew g2 = .ok d2) (hh : '/' ∉ h)
    (f1 : Fits g1 h) (f2 : Fits g2 h) :
    ∃ p1 p2, parsePat (pattern d1) = some p1 ∧ parsePat (pattern d2) = some p2 ∧
      ((conflict p1 p2 = true ∧ insChk [toks p1] (toks p2) false true = true ∧
          insChk [toks p2] (toks p1) false true = true)
        ∨ prefer p1 p2 = true ∨ prefer p2 p1 = true) := by
  obtain ⟨p1, hp1, m1⟩ := fits_gives_route h1 hh f1
  obtain ⟨p2, hp2, m2⟩ := fits_gives_route h2 hh f2
  refine ⟨p1, p2, hp1, hp2, ?_⟩
  rcases conflict_or_prefer p1 p2 _ m1 m2 with hc | hp | hp
  · left
    exact ⟨hc, insChk_of_conflict p1 p2 hc false true,
      insChk_of_conflict p2 p1 (by rw [conflict_symm]; exact hc) false true⟩
  · exact Or.inr (Or.inl hp)
  · exact Or.inr (Or.inr hp)

-- Both alternatives of `conflict_or_ordered` occur: a parameter against a catch-all conflict (and
-- share a host), a literal is searched before a parameter.
example : ∃ p1 p2, parsePat (pattern "{a}.x.com".toList) = some p1 ∧
    parsePat (pattern "{*b}.x.com".toList) = some p2 ∧ conflict p1 p2 = true :=
  ⟨[.lit "moc".toList, .lit "x".toList, .param [] "a".toList],
   [.lit "moc".toList, .lit "x".toList, .catchAll [] "b".toList], by decide +kernel⟩
example : Fits "{a}.x.com".toList "w.x.com".toList ∧ Fits "{*b}.x.com".toList "w.x.com".toList := by
  decide +kernel
example : ∃ p1 p2, parsePat (pattern "admin.x.com".toList) = some p1 ∧
    parsePat (pattern "{sub}.x.com".toList) = some p2 ∧ conflict p1 p2 = false ∧ prefer p1 p2 = true :=
  ⟨[.lit "moc".toList, .lit "x".toList, .lit "nimda".toList],
   [.lit "moc".toList, .lit "x".toList, .param [] "sub".toList], by decide +kernel⟩

/-- …and a conflicting pair is what `detect_domain_conflicts` reports: inserting the two patterns
    in order gives `[ok, conflict]`. -/
theorem conflict_rejected (q1 q2 : List Char) (s1 s2 : List Seg)
    (hp1 : parsePat q1 = some s1) (hp2 : parsePat q2 = some s2) (hc : conflict s1 s2 = true)
    (hn1 : paramCount s1 < 26) (hn2 : paramCount s2 < 26) :
    (insertAll [q1, q2] 0 []).1 = [.ok, .conflict] := by
  have e1 : ¬ paramCount s1 ≥ 26 := by omega
  have e2 : ¬ paramCount s2 ≥ 26 := by omega
  simp [insertAll, hp1, hp2, e1, e2, insChk_empty, insChk_of_conflict s1 s2 hc false true]

/-- The order is strict: of two ordered guards exactly one wins. -/
theorem ordered_strict (p1 p2 : List Seg) (h : prefer p1 p2 = true) : prefer p2 p1 = false :=
  prefer_asymm p1 p2 h

/-- Routes no two of which are in `conflict` (which `insert` would have refused,
    `insChk_of_conflict`) are ordered on every path they share. -/
theorem ordered_of_no_conflict (routes : List (Nat × List Seg)) (segs : List (List Char))
    (hnc : ∀ r ∈ routes, ∀ r' ∈ routes, r ≠ r' → conflict r.2 r'.2 = false) :
    Ordered routes segs := by
  intro r hr r' hr' hm hm'
  by_cases e : r = r'
  · exact Or.inl e
  · rcases conflict_or_prefer r.2 r'.2 segs hm hm' with hc | hp
    · rw [hnc r hr r' hr' e] at hc; cases hc
    · exact Or.inr hp

/-- **C20 (4)** A request never has two candidate domains: among routes that are pairwise ordered
    on the path (`Ordered`; by `ordered_of_no_conflict`, routes no two of which are in `conflict`),
    `Router::at` returns a matching route that is searched before every other matching route
    (`at_most_specific`); that route is unique, so the answer does not depend on the order in which
    the guards were registered or inserted. -/
theorem domain_deterministic (routes routes' : List (Nat × List Seg)) (path : List Char)
    (hperm : routes.Perm routes') (hord : Ordered routes (splitSlash path)) :
    atRoutes routes path = atRoutes routes' path := by
  unfold atRoutes
  rw [bestRoute_perm hperm hord]

-- Three overlapping, pairwise ordered routes, in two orders.
example :
    let r := [(0, [Seg.lit "moc".toList, .lit "x".toList, .lit "nimda".toList]),
              (1, [Seg.lit "moc".toList, .lit "x".toList, .param [] "sub".toList, .catchAll [] "any".toList]),
              (2, [Seg.lit "moc".toList, .lit "x".toList, .param [] "sub".toList])]
    atRoutes r "moc/x/nimda".toList = some 0 ∧ atRoutes r.reverse "moc/x/nimda".toList = some 0 ∧
    atRoutes r "moc/x/ipa".toList = some 2 ∧ atRoutes r "moc/x/ipa/a/b".toList = some 1 := by decide +kernel

theorem at_most_specific (routes : List (Nat × List Seg)) (path : List Char)
    (hord : Ordered routes (splitSlash path)) :
    (atRoutes routes path = none ↔ ∀ r ∈ routes, segsMatch r.2 (splitSlash path) = false) ∧
    (∀ i, atRoutes routes path = some i →
      ∃ b, IsBest routes (splitSlash path) b ∧ b.1 = i ∧
        ∀ b', IsBest routes (splitSlash path) b' → b' = b) := by
  unfold atRoutes
  match bestRoute routes (splitSlash path), bestRoute_spec hord with
  | none, hs => exact ⟨by simpa [FoldInv] using hs, nofun⟩
  | some b, hs =>
    refine ⟨⟨nofun, fun hnone => ?_⟩, fun i hi => ?_⟩
    · have hm := hs.2.1
      rw [hnone b hs.1] at hm
      cases hm
    · exact ⟨b, hs, by simpa using hi, fun b' hb' => isBest_unique hb' hs⟩

/-- "Two guards that can match the same host are rejected as conflicting", literally. -/
def no_two_candidates_statement : Prop :=
  ∀ g1 g2 d1 d2 h : List Char, guardNew g1 = .ok d1 → guardNew g2 = .ok d2 → d1 ≠ d2 →
    '/' ∉ h → Fits g1 h → Fits g2 h → (route [g1, g2] h).ins.any (· != .ok) = true

/-- Finding C20-specificity-overlap: the statement fails. The faithful model accepts `admin.x.com`
    together with `{sub}.x.com`, although the host `admin.x.com` fits both (upstream relies on this:
    ui test `blueprint/router/domain_routing`). -/
theorem no_two_candidates_statement_false : ¬ no_two_candidates_statement := fun hst =>
  -- at these guards and this host every hypothesis of the statement evaluates to true (`Fits`
  -- through `segsMatch`), and `route` answers `[ok, ok]`
  absurd (hst "admin.x.com".toList "{sub}.x.com".toList "admin.x.com".toList "{sub}.x.com".toList
    "admin.x.com".toList) (by decide +kernel)

/-- One trailing dot of the host is ignored… -/
theorem fits_host_trailing_dot (g h : List Char) (hl : h.getLast? ≠ some '.') :
    Fits g (h ++ ['.']) ↔ Fits g h := by
  simp [Fits, hostLabels, stripDot_snoc_dot, stripDot_of_last hl]

/-- …and so is one trailing dot of the guard (absolute form). -/
theorem fits_guard_trailing_dot (g h : List Char) (hl : g.getLast? ≠ some '.') :
    Fits (g ++ ['.']) h ↔ Fits g h := by
  simp [Fits, guardLabels, stripDot_snoc_dot, stripDot_of_last hl]

/-- The generated server agrees: the router sees the same path for `h` and `h.`. -/
theorem normHost_trailing_dot (h : List Char) (hl : h.getLast? ≠ some '.') :
    normHost (h ++ ['.']) = normHost h := by
  simp [normHost, stripDot_snoc_dot, stripDot_of_last hl]

end Pxv.Domain
