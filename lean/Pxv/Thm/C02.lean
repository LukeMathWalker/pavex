import Pxv.Lemmas.Stalemate
import Pxv.Lemmas.PassesSilent
import Pxv.Lemmas.MultipleConsumers
import Pxv.Model.BorrowCheck
/-!
C02 — rule-abiding blueprints are accepted.

`OrderedCallGraph::order` panics (`unreachable!("... stuck ...")`) when no unplaced node can be placed. The hypothesis
under which that is excluded outright is `noConflict`: no non-Copy value is both taken by value and borrowed. It is the
shape every in-class application has once the clone-insertion passes have run: a value is only borrowed, or moved and
never borrowed, or Copy, or was given a clone per by-value consumer. Of the four passes, which pavex runs before
`order`, the last reports exactly when `order` would get stuck, and each reports nothing on the call graphs of the
property's ownership clause it is handed.
-/
namespace Pxv.CG
open Graph

theorem canPlace_of_preds_placed {g : Graph} {placed : List Nat} {n : Nat}
    (hnc : noConflict g = true) (hwf : g.wellFormed = true)
    (hp : ∀ p ∈ g.preds n, p ∈ placed) : canPlace g placed n = true := by
  rw [canPlace_iff_preds]
  intro p hpm
  refine ⟨hp p hpm, fun hc hcopy b hb => ?_⟩
  have := List.all_eq_true.1 hnc p (List.mem_range.mpr (preds_lt hwf hpm).1)
  simp only [Bool.or_eq_true, List.isEmpty_iff] at this
  rcases this with (h | h) | h
  · rw [hcopy] at h
    cases h
  · -- nobody takes `p` by value
    rw [h] at hc
    cases hc
  · -- nobody borrows `p`
    rw [h] at hb
    cases hb

/-- a topological order of a graph in which no non-Copy value is both taken by value and borrowed is a run. -/
theorem isRun_of_topo {g : Graph} {τ : List Nat} (hnc : noConflict g = true) (hwf : g.wellFormed = true)
    (hτ : isTopo g τ = true) : isRun g τ = true := by
  simp only [isTopo, Bool.and_eq_true, decide_eq_true_eq, List.all_eq_true] at hτ
  obtain ⟨⟨⟨hnodup, _⟩, _⟩, hedges⟩ := hτ
  refine isRunFrom_of_split fun pre a rest hsplit => ?_
  have ha : a ∉ pre := fun hin =>
    (List.nodup_append.mp (hsplit ▸ hnodup)).2.2 _ hin _ (List.mem_cons_self ..) rfl
  refine ⟨canPlace_of_preds_placed hnc hwf fun p hp => ?_, by simpa using ha⟩
  -- a dependency of `a` precedes it in `τ`
  obtain ⟨e, he, rfl, rfl⟩ := mem_preds.1 hp
  have hlt := hedges e he
  apply Classical.byContradiction
  intro hnot
  simp only [List.nil_append] at hnot
  unfold pos at hlt
  rw [hsplit, List.idxOf_append, List.idxOf_append] at hlt
  simp only [ha, hnot, if_false, List.idxOf_cons_self] at hlt
  omega

theorem first_unplaced {τ placed : List Nat} (h : ∃ n ∈ τ, n ∉ placed) :
    ∃ pre a rest, τ = pre ++ a :: rest ∧ (∀ x ∈ pre, x ∈ placed) ∧ a ∉ placed := by
  obtain ⟨n, hn, hnp⟩ := h
  cases hf : τ.find? (fun x => !placed.contains x) with
  | none => exact absurd (List.find?_eq_none.1 hf n hn) (by simpa using hnp)
  | some a =>
    obtain ⟨ha, pre, rest, e, hpre⟩ := List.find?_eq_some_iff_append.1 hf
    exact ⟨pre, a, rest, e, fun x hx => by simpa using hpre x hx, by simpa using ha⟩

theorem canPlace_mono {g : Graph} {p1 p2 : List Nat} {n : Nat} (hsub : ∀ x ∈ p1, x ∈ p2)
    (h : canPlace g p1 n = true) : canPlace g p2 n = true := by
  rw [canPlace_iff_preds] at *
  exact fun p hp => ⟨hsub p (h p hp).1, fun hc hcopy b hb => hsub b ((h p hp).2 hc hcopy b hb)⟩

theorem placeable_of_run {g : Graph} {τ placed : List Nat} (hτ : isRun g τ = true) (h : ∃ n ∈ τ, n ∉ placed) :
    ∃ n, n ∈ τ ∧ n ∉ placed ∧ canPlace g placed n = true := by
  obtain ⟨pre, a, rest, e, hpre, ha⟩ := first_unplaced h
  exact ⟨a, by simp [e], ha, canPlace_mono hpre (isRun_split hτ pre a rest e).1⟩

/-- **confluence / progress**: if *some* complete legal order `τ` exists, then from every reachable
    partial placement some unplaced node can be placed — greedy placement never gets stuck,
    whatever it placed so far. -/
theorem exists_placeable_of_run {g : Graph} {τ placed : List Nat}
    (hτ : isRun g τ = true) (hcomp : isComplete g τ = true)
    (hlt : ∃ n, n < g.size ∧ n ∉ placed) :
    ∃ n, n ∈ τ ∧ n ∉ placed ∧ canPlace g placed n = true := by
  obtain ⟨n, hn, hnp⟩ := hlt
  unfold isComplete at hcomp
  rw [List.all_eq_true] at hcomp
  exact placeable_of_run hτ ⟨n, List.contains_iff_mem.mp (hcomp n (List.mem_range.mpr hn)), hnp⟩

theorem orderLoop_sound {g : Graph} :
    ∀ (fuel : Nat) (placed σ : List Nat), isRunFrom g [] placed = true → (∀ x ∈ placed, x < g.size) →
      orderLoop g fuel placed = some σ →
      isRun g σ = true ∧ (∀ x ∈ σ, x < g.size) ∧ σ.length = g.size := by
  intro fuel
  induction fuel with
  | zero =>
    intro placed σ hrun hb h
    simp only [orderLoop, Option.ite_none_right_eq_some, Option.some.injEq] at h
    exact h.2 ▸ ⟨hrun, hb, by simpa using h.1⟩
  | succ f ih =>
    intro placed σ hrun hb h
    simp only [orderLoop] at h
    split at h
    · rename_i hl
      cases h
      exact ⟨hrun, hb, by simpa using hl⟩
    · split at h
      · rename_i n hfind
        have hprop := List.find?_some hfind
        simp only [Bool.and_eq_true, Bool.not_eq_true', List.contains_eq_mem,
          decide_eq_false_iff_not] at hprop
        exact ih (placed ++ [n]) σ (isRunFrom_snoc hrun hprop.1 hprop.2)
          (bound_snoc hb (List.mem_range.mp (List.mem_of_find?_eq_some hfind))) h
      · cases h

theorem orderLoop_complete {g : Graph}
    (hprog : ∀ placed : List Nat, (∃ n, n < g.size ∧ n ∉ placed) →
      ∃ n, n < g.size ∧ n ∉ placed ∧ canPlace g placed n = true) :
    ∀ (fuel : Nat) (placed : List Nat), placed.Nodup → (∀ x ∈ placed, x < g.size) →
      placed.length + fuel ≥ g.size → ∃ σ, orderLoop g fuel placed = some σ := by
  intro fuel
  induction fuel with
  | zero =>
    intro placed hnd hb hlen
    have hle := nodup_bound_length hnd hb
    have hfull : placed.length = g.size := by omega
    exact ⟨placed, by simp [orderLoop, hfull]⟩
  | succ f ih =>
    intro placed hnd hb hlen
    have hle := nodup_bound_length hnd hb
    simp only [orderLoop]
    split
    · exact ⟨placed, rfl⟩
    · rename_i hfull
      have hlt : placed.length < g.size := by
        simp only [beq_iff_eq] at hfull
        omega
      obtain ⟨n, hn, hnp, hcp⟩ := hprog placed (exists_lt_not_mem hlt)
      split
      · rename_i m hm
        have hmprop := List.find?_some hm
        simp only [Bool.and_eq_true, Bool.not_eq_true', List.contains_eq_mem,
          decide_eq_false_iff_not] at hmprop
        exact ih (placed ++ [m]) (nodup_snoc hnd hmprop.1)
          (bound_snoc hb (List.mem_range.mp (List.mem_of_find?_eq_some hm)))
          (by simp only [List.length_append, List.length_singleton]; omega)
      · rename_i hm
        have := List.find?_eq_none.1 hm n (List.mem_range.mpr hn)
        simp [hcp, hnp] at this

/-- **C02 (ordering, general form)**: whenever the borrow-checked call graph admits *some* complete
    legal order, the ordering step finds one — it cannot get stuck, whichever nodes it happens to
    place first (the guard is monotone). -/
theorem order_never_stuck_of_run {g : Graph} {τ : List Nat}
    (hτ : isRun g τ = true) (hcomp : isComplete g τ = true) (hb : ∀ x ∈ τ, x < g.size) :
    ∃ σ, order g = some σ ∧ isRun g σ = true ∧ σ.length = g.size := by
  obtain ⟨σ, h⟩ := orderLoop_complete (g := g) (fun placed h =>
    let ⟨n, hn, hnp, hc⟩ := exists_placeable_of_run hτ hcomp h
    ⟨n, hb n hn, hnp, hc⟩) g.size [] List.nodup_nil (by simp) (by simp)
  have := orderLoop_sound g.size [] σ rfl (by simp) h
  exact ⟨σ, h, this.1, this.2.2⟩

/-- **C02 (ordering)**: for every acyclic, well-formed call graph in which no non-Copy value is both
    taken by value and borrowed, the ordering step terminates with a complete legal order: the
    `unreachable!("... stuck ...")` branch of `OrderedCallGraph::order` is dead on such graphs. -/
theorem order_never_stuck {g : Graph} {τ : List Nat}
    (hnc : noConflict g = true) (hwf : g.wellFormed = true) (hτ : isTopo g τ = true) :
    ∃ σ, order g = some σ ∧ isRun g σ = true ∧ σ.length = g.size := by
  have hrun := isRun_of_topo hnc hwf hτ
  simp only [isTopo, Bool.and_eq_true, decide_eq_true_eq, List.all_eq_true] at hτ
  obtain ⟨⟨⟨_, hall⟩, hbound⟩, _⟩ := hτ
  exact order_never_stuck_of_run hrun (List.all_eq_true.2 hall) hbound

-- Non-vacuity: the diamond after clone insertion (node 4 = clone of 0 feeding the consumer 2).
def exDiamond : Graph :=
  { nodes := [{}, {}, {}, {}, {}],
    edges := [⟨0, 1, .shared⟩, ⟨0, 4, .shared⟩, ⟨4, 2, .move⟩, ⟨1, 3, .move⟩, ⟨2, 3, .move⟩] }
example : let g := exDiamond
    noConflict g = true ∧ g.wellFormed = true ∧ isTopo g [0, 1, 4, 2, 3] = true ∧
    order g = some [0, 1, 4, 2, 3] := by decide +kernel
-- and the hypothesis matters: the un-cloned conflict graph `x -> c (move)`, `x -> d (&)`, `c -> d`
-- is stuck in the model exactly as in the compiler (this was the panic fixed by 37343ca/05372da).
def exStuck : Graph :=
  { nodes := [{}, {}, {}],
    edges := [⟨0, 1, .move⟩, ⟨0, 2, .shared⟩, ⟨1, 2, .move⟩] }
example : let g := exStuck
    noConflict g = false ∧ order g = none := by decide +kernel

/-! ### the forward pass `ordering_stalemates` (repo commit 437e3c1)

Before that repair nothing guaranteed the hypothesis of `order_never_stuck_of_run`: `complex_borrow_check` releases the
borrows of a node when it has visited it, whether or not the node's own dependencies can be scheduled, so a cycle of
"borrowers first" constraints that goes through dependency edges was accepted and the ordering step panicked
(`exCross` below; replayed on the real compiler: corpus/e2e/crossing_stalemate_through_dependencies). The last pass
of the borrow checker now plays the ordering forward; these theorems are about its mirror `findStalemate` /
`resolveStalemates` (Model/Stalemate.lean), compared with the real pass on every call graph of every run. -/

/-- **no stalemate, no panic**: when the forward pass finds no stalemate in a well-formed acyclic call graph, a complete
    legal order exists and the ordering step — whatever it places first — finds one. -/
theorem no_stalemate_order {g : Graph} {r : Nat → Nat} (hwf : g.wellFormed = true) (hr : Ranked g r)
    (h : findStalemate g [] = []) :
    ∃ σ, order g = some σ ∧ isRun g σ = true ∧ σ.length = g.size := by
  obtain ⟨final, hrun, hb, hfr⟩ := findStalemate_none h
  have hall := all_placed hr hwf hfr
  have hcomp : isComplete g final = true := by
    unfold isComplete
    rw [List.all_eq_true]
    intro n hn
    exact List.contains_iff_mem.mpr (hall n (List.mem_range.mp hn))
  exact order_never_stuck_of_run (τ := final) hrun hcomp hb

/-- **C02 / C09 (ordering, unconditional)**: whenever `ordering_stalemates` reports nothing, the call graph it hands to
    `OrderedCallGraph::order` (with the clones it inserted) can be ordered: the `unreachable!("... stuck ...")` is dead
    for every well-formed acyclic input graph, with no assumption on who borrows or consumes what. -/
theorem stalemates_resolved_order {g g' : Graph} {r : Nat → Nat} (hwf : g.wellFormed = true) (hr : Ranked g r)
    (h : resolveStalemates g = (g', [])) :
    ∃ σ, order g' = some σ ∧ isRun g' σ = true ∧ σ.length = g'.size := by
  have hinv := resolveLoop_graph_inv (I := fun g => g.wellFormed = true ∧ ∃ r, Ranked g r)
    (fun _ _ _ h hp _ => ⟨insertClone_wf h.1 hp, insertClone_ranked h.1 h.2 hp⟩)
    (resolveFuel g) g [] [] ⟨hwf, r, hr⟩
  unfold resolveStalemates at h
  rw [h] at hinv
  obtain ⟨hwf', r', hr'⟩ := hinv
  exact no_stalemate_order hwf' hr' (resolveLoop_nil _ g [] [] g' h).2

/-- **the forward pass is exact**: it reports a stalemate only when the ordering step really would get stuck — a graph
    that has a complete legal order is never touched by `ordering_stalemates` (no clone, no diagnostic). With
    `no_stalemate_order`: for well-formed acyclic call graphs, `findStalemate g [] = []` iff `order g` succeeds. -/
theorem stalemate_means_stuck {g : Graph} (h : findStalemate g [] ≠ []) : order g = none := by
  obtain ⟨s, hs⟩ := List.exists_mem_of_ne_nil _ h
  obtain ⟨final, hrun, hb, hstuck, hs1, hs2⟩ := findStalemate_some hs
  cases ho : order g with
  | none => rfl
  | some σ =>
    exfalso
    obtain ⟨hσrun, hσb, hσlen⟩ := orderLoop_sound g.size [] σ rfl (by simp) ho
    -- the first node of σ outside `final` can be placed from `final`
    obtain ⟨n, hnσ, hnf, hcp⟩ := placeable_of_run (placed := final) hσrun
      ⟨s.1, nodup_full (isRun_nodup hσrun) hσb hσlen s.1 hs1, hs2⟩
    rcases hstuck n (hσb n hnσ) with hin | hno
    · exact hnf hin
    · rw [hcp] at hno
      cases hno

/-- a diagnostic is reported only when no contended input of any stuck node may be cloned: as long as one may, the pass
    clones instead (for the first stuck node that has one). -/
theorem stalemate_reported_only_if_not_cloneable (fuel : Nat) (g : Graph) (reported : List Nat) (ds : List OsDiag)
    (hc : ∃ s ∈ findStalemate g reported, ∃ b ∈ s.2, (g.node b).cloneable = true) :
    ∃ n b, (g.node b).cloneable = true ∧
      resolveLoop (fuel + 1) g reported ds = resolveLoop fuel (insertClone g b n).1 reported ds := by
  obtain ⟨s, hs, b, hb, hcb⟩ := hc
  rcases resolveLoop_succ fuel g reported ds with
    ⟨hn, _⟩ | ⟨n, b', _, _, hc', e⟩ | ⟨_, _, _, hno, _⟩
  · -- nothing is stuck: but `s` is
    rw [hn] at hs
    cases hs
  · exact ⟨n, b', hc', e⟩
  · -- a report, which needs that no contended input may be cloned: but `b` may
    rw [hno s hs b hb] at hcb
    cases hcb

/-- the mirrored pass is total: with the fuel `resolveFuel` (2·|edges| + |nodes| + 1 rounds: every round removes a `move`
    edge out of a clone-if-necessary value or reports one more node) it never gives up. -/
theorem stalemates_pass_terminates {g : Graph} (hwf : g.wellFormed = true) :
    ∀ d ∈ (resolveStalemates g).2, d ≠ .outOfFuel :=
  resolve_never_out_of_fuel hwf

/-- **C02 (last pass, in class)**: a well-formed, acyclic, capture-free call graph in which every value that is both
    taken by value and borrowed is Copy or clone-if-necessary is accepted by `ordering_stalemates` without a diagnostic,
    and what the pass hands on can be ordered. -/
theorem inClass_accepted_and_ordered {g : Graph} {r : Nat → Nat} (hwf : g.wellFormed = true) (hr : Ranked g r)
    (hcf : captureFree g = true) (hcc : ContendedCloneable g) :
    (resolveStalemates g).2 = [] ∧
      ∃ σ, order (resolveStalemates g).1 = some σ ∧ isRun (resolveStalemates g).1 σ = true ∧
        σ.length = (resolveStalemates g).1.size := by
  have h := resolve_inClass_silent hwf hcf hcc
  refine ⟨h, ?_⟩
  exact stalemates_resolved_order (g' := (resolveStalemates g).1) hwf hr (by rw [← h])

-- The witness: V1 = 0, V2 = 1, c1(V1) = 2, b2(&V2, c1) = 3, c2(V2) = 4, b1(&V1, c2) = 5, handler(b2, b1) = 6.
def exCross (cloneable : Bool) : Graph :=
  { nodes := [{ cloneable }, { cloneable }, {}, {}, {}, {}, {}],
    edges := [⟨0, 2, .move⟩, ⟨1, 3, .shared⟩, ⟨2, 3, .move⟩, ⟨1, 4, .move⟩, ⟨0, 5, .shared⟩, ⟨4, 5, .move⟩,
              ⟨3, 6, .move⟩, ⟨5, 6, .move⟩] }
-- b1 < c1 < b2 < c2 < b1: no order exists (the compiler panicked here), the forward pass names the stuck node
example : order (exCross false) = none ∧ findStalemate (exCross false) [] = [(2, [0]), (4, [1])] := by decide +kernel
-- and a graph that can be ordered is left alone (`stalemate_means_stuck`, contrapositive): the diamond after cloning
example : findStalemate exDiamond [] = [] ∧ resolveStalemates exDiamond = (exDiamond, []) := by decide +kernel
-- not cloneable: reported, once
example : (resolveStalemates (exCross false)).2 = [.stalemate 2 [0]] := by decide +kernel
-- clone-if-necessary: one clone of V1 (node 7) for c1 breaks the cycle, nothing is reported, and the result can be ordered
example : (resolveStalemates (exCross true)).2 = [] ∧
    (resolveStalemates (exCross true)).1.edges = [⟨1, 3, .shared⟩, ⟨2, 3, .move⟩, ⟨1, 4, .move⟩, ⟨0, 5, .shared⟩,
      ⟨4, 5, .move⟩, ⟨3, 6, .move⟩, ⟨5, 6, .move⟩, ⟨0, 7, .shared⟩, ⟨7, 2, .move⟩] ∧
    order (resolveStalemates (exCross true)).1 = some [0, 1, 7, 2, 3, 4, 5, 6] := by decide +kernel
-- only the second value may be cloned: the pass clones it for the second stuck node instead of reporting the first
def exCross2 : Graph := { exCross false with nodes := [{}, { cloneable := true }, {}, {}, {}, {}, {}] }
example : (resolveStalemates exCross2).2 = [] ∧ (order (resolveStalemates exCross2).1).isSome = true := by decide +kernel
-- and the hypotheses of `stalemates_resolved_order` are met by it
example : (exCross true).wellFormed = true ∧ captureFree (exCross true) = true ∧ ContendedCloneable (exCross true) ∧
    Ranked (exCross true) (fun n => n) := by
  unfold ContendedCloneable Ranked
  decide +kernel

/-! ### `complex_borrow_check`, mirrored statement by statement (Model/Complex.lean, compared with the real pass on every
call graph of every program through the hooks affca2a) -/

/-- **C02 — the third clone-insertion pass leaves rule-abiding call graphs alone**: when every value that some node takes by
    value is Copy, or is borrowed by nobody (neither through a `&`/`&mut` input nor through a value that holds a reference
    to it), `complexCheck` returns the call graph unchanged and reports nothing — for every graph size and shape, every
    order of the adjacency lists, every strategy state. (The values the property also allows — Clone and clone-if-necessary
    — are covered by `complex_pass_only_clones_cloneable`, Thm/C04, and the per-graph correspondence.) -/
theorem complex_pass_silent_when_uncontended {g : Graph} (h : uncontended g = true) :
    (complexCheck g).g = g ∧ (complexCheck g).diags = [] :=
  complexCheck_silent (noBlock_of_uncontended h)

/-- the call graph of the doc comment of `complex_borrow_check`: `D` takes `A` and borrows `B`, `C` takes `B` and borrows `A` -/
def exX (ca cb : Bool) : Graph := ⟨[{ cloneable := ca }, { cloneable := cb }, {}, {}, {}],
  [⟨0, 2, .move⟩, ⟨1, 2, .shared⟩, ⟨1, 3, .move⟩, ⟨0, 3, .shared⟩, ⟨2, 4, .move⟩, ⟨3, 4, .move⟩]⟩
-- non-vacuity: a graph with moves AND borrows that meets the hypothesis (the borrowed value is not the moved one) ...
example : uncontended ⟨[{}, {}, {}, {}], [⟨0, 2, .move⟩, ⟨1, 2, .shared⟩, ⟨1, 3, .shared⟩, ⟨2, 3, .move⟩]⟩ = true := by decide +kernel
-- ... and the pass does act when it is not met: two diagnostics ("Pavex should detect this and return two errors"), or one
-- clone of the first value that may be cloned, for the node that wanted it by value
example : uncontended (exX false false) = false ∧ (complexCheck (exX false false)).diags = [(3, [1]), (2, [0])] ∧
    (complexCheck (exX false false)).g = exX false false := by decide +kernel
example : (complexCheck (exX true false)).diags = [] ∧
    (complexCheck (exX true false)).g.edges.filter (fun e => !((exX true false).edges.contains e)) = [⟨0, 5, .shared⟩, ⟨5, 2, .move⟩] ∧
    (complexCheck (exX true false)).fuelOut = false := by decide +kernel

/-- **C02 — `complex_borrow_check` never rejects an application whose contended values are clone-if-necessary** (the fourth
    alternative of the property's ownership clause): on every well-formed call graph in which each value that some node takes
    by value while somebody borrows it — through `&`, `&mut`, or a value that holds a reference to it — is Copy or may be
    cloned, the pass reports nothing, whatever it parks, clones or revisits on the way. The invariant behind it: the error
    strategy is never entered, because a cloning round that parks a node has cloned for it (`CK.flag`), and the tables of
    `OwnershipRelationships` never get an entry for a node that does not exist yet (`CK.fresh`). With
    `complex_pass_only_clones_cloneable` (Thm/C04): the pass only adds clones of those values. -/
theorem complex_pass_accepts_when_contended_values_cloneable {g : Graph} (hwf : g.wellFormed = true)
    (h : contendedCloneable g = true) : (complexCheck g).diags = [] :=
  (complexCheck_CK hwf h).diags

-- non-vacuity: the graph of the doc comment with both values clone-if-necessary meets the hypotheses, is contended, and gets
-- exactly one clone; with one value that may not be cloned the hypothesis fails (and so does the pass, see above)
example : (exX true true).wellFormed = true ∧ contendedCloneable (exX true true) = true ∧ uncontended (exX true true) = false ∧
    (complexCheck (exX true true)).g.size = 6 := by decide +kernel
example : contendedCloneable (exX false false) = false ∧ contendedCloneable (exX true false) = false := by decide +kernel

/-- **C02 — `multiple_consumers` never rejects an application whose contended values are clone-if-necessary**: if every value
    that several nodes take by value is Copy, a reference, or may be cloned, the pass reports nothing — it clones instead, and
    the clones it inserts for one value leave the flags and the by-value consumers of every other value as they were
    (`multipleConsumers_clones`), so the argument goes through the whole traversal. -/
theorem multiple_consumers_accepts_when_contended_values_cloneable {g : Graph} (hq : mcCloneable g = true) :
    (multipleConsumers g).2 = [] :=
  (multipleConsumers_clones hq).2

-- non-vacuity: a clone-if-necessary value with two by-value consumers on one path: no diagnostic, one clone
example : mcCloneable ⟨[{ cloneable := true }, {}, {}, {}], [⟨0, 1, .move⟩, ⟨0, 2, .move⟩, ⟨1, 3, .move⟩, ⟨2, 3, .move⟩]⟩ = true ∧
    (multipleConsumers ⟨[{ cloneable := true }, {}, {}, {}], [⟨0, 1, .move⟩, ⟨0, 2, .move⟩, ⟨1, 3, .move⟩, ⟨2, 3, .move⟩]⟩).1.size = 5 ∧
    (multipleConsumers ⟨[{}, {}, {}, {}], [⟨0, 1, .move⟩, ⟨0, 2, .move⟩, ⟨1, 3, .move⟩, ⟨2, 3, .move⟩]⟩).2.length = 1 := by decide +kernel

/-- **C02 — `move_while_borrowed` never rejects an application without `&mut` inputs whose by-value inputs are Copy or
    clone-if-necessary**: on every well-formed call graph of that kind the pass reports nothing, for any number of nodes and
    any pattern of borrows below a move (it clones there). With the three theorems above, each of the four passes of the
    borrow checker is proved never to report on the call graphs of C02's fourth alternative it is handed. (The hypothesis of
    each theorem is about the graph THAT pass receives; that the clones of one pass keep the next pass's hypothesis is
    observed per graph by the correspondence, not proved.) -/
theorem move_while_borrowed_accepts_when_by_value_inputs_cloneable {g : Graph} (hwf : g.wellFormed = true)
    (hq : mwbCloneable g = true) : (moveWhileBorrowed g).2 = [] :=
  (moveWhileBorrowed_clones hwf hq).2

-- non-vacuity: a clone-if-necessary value (0) moved into 2 and borrowed by 3 below it: a clone, no diagnostic; never-clone: reported
example : mwbCloneable ⟨[{ cloneable := true }, { cloneable := true }, { cloneable := true }, {}], [⟨0, 2, .move⟩, ⟨2, 3, .move⟩, ⟨0, 3, .shared⟩, ⟨1, 3, .move⟩]⟩ = true ∧
    (moveWhileBorrowed ⟨[{ cloneable := true }, { cloneable := true }, { cloneable := true }, {}], [⟨0, 2, .move⟩, ⟨2, 3, .move⟩, ⟨0, 3, .shared⟩, ⟨1, 3, .move⟩]⟩).1.size = 5 ∧
    (moveWhileBorrowed ⟨[{}, {}, {}, {}], [⟨0, 2, .move⟩, ⟨2, 3, .move⟩, ⟨0, 3, .shared⟩, ⟨1, 3, .move⟩]⟩).2.length = 1 := by decide +kernel

/-- **C02 — the borrow checker, all four passes, on rule-abiding call graphs**: take any acyclic, well-formed call graph in
    which (1) no value has two by-value consumers on one control-flow path unless it is Copy or a reference, (2) there is no
    `&mut` input and whatever is taken by value is Copy or borrowed by nobody (neither directly nor through a value that
    holds a reference to it; stated for both capture bookkeepings of the compiler, `captured` and `holds`). Then
    `multiple_consumers`, `move_while_borrowed`, `complex_borrow_check` and `ordering_stalemates` (each mirrored statement
    by statement and compared with the real pass on every call graph of every run) all return the graph untouched, none
    reports a diagnostic, and the ordering step that follows finds a complete legal order: such an application is never
    rejected, never asked to restructure, and never sees a clone it did not ask for. For every size and shape of graph. -/
theorem inClass_borrowCheck_identity {g : Graph} {τ : List Nat} (hwf : g.wellFormed = true) (hτ : isTopo g τ = true)
    (hmc : McQuiet g) (hq : mwbQuiet g = true) (hnc : noConflict g = true) :
    borrowCheck g = some g ∧ ∃ σ, order g = some σ ∧ isRun g σ = true ∧ σ.length = g.size := by
  have hord := order_never_stuck hnc hwf hτ
  refine ⟨?_, hord⟩
  obtain ⟨σ, hσ, _, _⟩ := hord
  have hfs : findStalemate g [] = [] := by
    apply Classical.byContradiction
    intro hne
    rw [stalemate_means_stuck hne] at hσ
    cases hσ
  have hos : resolveStalemates g = (g, []) := by
    unfold resolveStalemates resolveFuel
    rw [show 2 * g.edges.length + g.size + 1 = (2 * g.edges.length + g.size) + 1 from rfl]
    simp only [resolveLoop, hfs]
  have hcx := complex_pass_silent_when_uncontended (uncontended_of_mwbQuiet hq)
  unfold borrowCheck
  simp only [multipleConsumers_quiet hmc, moveWhileBorrowed_quiet hq, hcx.1, hcx.2, hos,
    List.isEmpty_nil, Bool.and_self, Bool.not_true, Bool.false_eq_true, if_false]

-- non-vacuity: a handler (4) that borrows a singleton (0), takes a request-scoped value (2) built from a borrow of it, and a
-- Copy value (1) that is both taken by value twice and borrowed
def exInClass : Graph :=
  { nodes := [{}, { copy := true }, {}, {}, {}],
    edges := [⟨0, 2, .shared⟩, ⟨1, 2, .move⟩, ⟨1, 3, .shared⟩, ⟨1, 4, .move⟩, ⟨0, 4, .shared⟩, ⟨2, 4, .move⟩, ⟨3, 4, .move⟩] }
example : exInClass.wellFormed = true ∧ isTopo exInClass [0, 1, 2, 3, 4] = true ∧ mwbQuiet exInClass = true ∧
    noConflict exInClass = true := by decide +kernel
example : McQuiet exInClass := by
  exact mcQuiet_of_nodes (by decide +kernel) (by decide +kernel)
example : borrowCheck exInClass = some exInClass := by decide +kernel

/-- **C02, from the edges alone** (call graphs without captured references): no `&mut` input, no non-Copy value both taken by
    value and borrowed, at most one by-value consumer per control-flow path — then the borrow checker is the identity, silent,
    and the ordering step succeeds. Every hypothesis is a decidable statement about the edges of the call graph. -/
theorem inClass_captureFree_accepted {g : Graph} {τ : List Nat} (hwf : g.wellFormed = true) (hτ : isTopo g τ = true)
    (hcf : captureFree g = true) (hedges : inClassEdges g = true) (hmc : McQuiet g) :
    borrowCheck g = some g ∧ ∃ σ, order g = some σ ∧ isRun g σ = true ∧ σ.length = g.size :=
  inClass_borrowCheck_identity hwf hτ hmc (mwbQuiet_of_inClassEdges hcf hedges)
    (noConflict_of_inClassEdges hcf hedges)

example : captureFree exInClass = true ∧ inClassEdges exInClass = true := by decide +kernel

end Pxv.CG
