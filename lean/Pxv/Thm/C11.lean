import Pxv.Lemmas.SessionStrict
import Pxv.Lemmas.SessionCarry
/-!
C11 — session state carries over from one request to the next, exactly.

`Pxv.Session` (Model/Session.lean) is the model of the `Session` state machine, `sync`, `finalize`,
`finalize_session` over an abstract store; `Pxv.Session.Spec` (Model/SessionSpec.lean) is the
plain pair-of-maps specification.

All theorems quantify over every configuration (creation policy, missing-state policy, TTL trigger
and threshold, cookie configuration, crypto rule); those about histories over every history: any
number of requests, any operations in each, any cookie source (the jar, nothing, a replayed older
cookie), external expiry of records, any remaining-TTL report.
-/
namespace Pxv.Session
open Spec

variable {κ ν : Type} [DecidableEq κ]

/-- What a history shows: per request, the results of the operations and the session cookie of
    the response. -/
def observed (outs : List (ReqOut κ ν)) : List (List (Res ν) × Fin κ ν) :=
  outs.map (fun o => (o.res, o.fin))

/-- **C11, full strength** (kept visible): every history of the model observes exactly what the
    ideal pair-of-maps specification says. False as it stands — see `C11_full_statement_false`. -/
def C11_full_statement (κ ν : Type) [DecidableEq κ] : Prop :=
  ∀ (cfg : Config) (reqs : List (Req κ ν)),
    observed (runHistory cfg reqs Client.init World.init) = Spec.runHistory cfg false reqs Client.init SWorld.init

/-- **C11 (refinement, every history)**: the model observes exactly what the pair-of-maps
    specification says, where the specification includes the one recorded finding (F7: cycling the
    id of a session whose record is missing and was never looked at is refused). -/
theorem refines_every_history (cfg : Config) (reqs : List (Req κ ν)) :
    observed (runHistory cfg reqs Client.init World.init) = Spec.runHistory cfg true reqs Client.init SWorld.init :=
  history_refines cfg reqs Client.init World.init (fun _ hi => absurd rfl hi) ⟨nofun, nofun⟩

/-- **C11 (carry-over, partial)**: on every history in which the model never reports the F7
    refusal — a condition on what the history itself shows — the model observes exactly what the
    *ideal* pair-of-maps specification says: every request sees precisely the client-side and
    server-side key/values the previous request on that cookie ended with. -/
theorem carry_over_partial (cfg : Config) (reqs : List (Req κ ν))
    (h : NoF7 (observed (runHistory cfg reqs Client.init World.init))) :
    observed (runHistory cfg reqs Client.init World.init) = Spec.runHistory cfg false reqs Client.init SWorld.init := by
  rw [refines_every_history] at h ⊢
  exact (runHistory_strict cfg reqs Client.init SWorld.init h).symm

/-- **C11, one operation**: under the session/store coherence invariant, every
    public operation returns what the pair of maps returns and leads to related states. -/
theorem refine_step (cfg : Config) (rem : Nat) (op : Op κ ν) (s : Sess κ ν) (w : World κ ν) (h : Inv s w) :
    (step cfg rem op s w).1 = (Spec.step cfg true op (abs s) (absW w)).1 ∧
    abs (step cfg rem op s w).2.1 = (Spec.step cfg true op (abs s) (absW w)).2.1 ∧
    absW (step cfg rem op s w).2.2 = (Spec.step cfg true op (abs s) (absW w)).2.2 ∧
    Inv (step cfg rem op s w).2.1 (step cfg rem op s w).2.2 :=
  step_refines cfg rem op s w h

/-- **`sync` fails only as F7**, never panics, and a refused sync changes neither the session nor
    any record (with `no_panic`, what DESIGN.md calls `finalize_unreachable_free`: the
    `unreachable!`/`assert!` arms of `sync` are dead). -/
theorem sync_fails_only_f7 (cfg : Config) (s : Sess κ ν) (w : World κ ν) (h : Inv s w) :
    (sync cfg s w).1 ≠ .panic ∧
    (∀ e, (sync cfg s w).1 = .err e →
      e = f7 ∧ (sync cfg s w).2.1 = s ∧ absW (sync cfg s w).2.2 = absW w ∧
      s.server = none ∧ ∃ o n, s.id = .toBeRenamed o n ∧ Map.lookup w.store o = none) := by
  obtain ⟨s', w', e, _⟩ | ⟨w', e, _, ha, _, hc⟩ := sync_refines cfg s w h <;> rw [e]
  · exact ⟨nofun, nofun⟩
  · refine ⟨nofun, fun _ he => ?_⟩
    cases he
    exact ⟨rfl, rfl, ha, hc⟩

/-- **No panic anywhere**: on every history, no operation and no finalisation of the model hits an
    `unreachable!`/`assert!`. -/
theorem no_panic (cfg : Config) (reqs : List (Req κ ν)) :
    ∀ o ∈ observed (runHistory cfg reqs Client.init World.init), o.2 ≠ .panic ∧ ∀ r ∈ o.1, Res.isPanic r = false := by
  rw [refines_every_history]
  exact Spec.runHistory_no_panic cfg true reqs Client.init SWorld.init

/-- **C11 (carry-over, in plain terms)**: if a request ends by handing out the session cookie
    `(id, c)`, then the next request that presents this cookie reads, for every key, exactly the
    server-side value and the client-side value the previous request ended with — whatever
    operations produced them, under every configuration, whatever the TTL reports. -/
theorem carry_over (cfg : Config) (rem rem' : Nat) (s s' : Sess κ ν) (w w' : World κ ν) (id : Nat) (c : Map κ ν)
    (h : Inv s w) (hf : finalizeSession cfg s w = (.set id c, s', w')) (k : κ) :
    (getRaw cfg rem' k (newSession (some (id, c)) w').1 (newSession (some (id, c)) w').2).1 = (getRaw cfg rem k s w).1 ∧
    clientGet k (newSession (some (id, c)) w').1 = clientGet k s := by
  -- the cookie was made from the synced session `s'`, of a session that is not invalidated
  obtain ⟨hs, hinv, hid, hc⟩ :=
    finalize_set_sync cfg s s' w w' id c (finalizeSession_set cfg s s' w w' id c hf)
  obtain ⟨hfl, hI'⟩ := sync_ok_flush cfg s s' w w' h hs
  obtain ⟨_, g2, g3⟩ := sync_ok_fields cfg s s' w w' hs
  have hlt : id < w'.nextId := by
    rw [hid]
    exact hI'.newLt
  have hnext := Inv_incoming id c w' hI'.bounded hlt
  constructor
  · -- server side: both `get`s on the pair of maps, where `flush_carry` compares them
    rw [getRaw_eq_specGet cfg rem' k _ _ hnext, getRaw_eq_specGet cfg rem k s w h]
    have := flush_carry cfg k (abs s) (abs s') (absW w) (absW w') c (SInv_of_Inv s w h) hfl
    rw [← this, hid]
    rfl
  · -- client side: the cookie carries the client map, which `sync` does not touch
    have e1 : s.invalidated = false := by
      rw [← g2]
      exact hinv
    simp [clientGet, newSession, e1, Cli.state, hc, g3]

/-- **C11 (cycle_id)**: after `cycle_id()` and a successful sync the state is reachable only under
    the new id: nothing is left under the old id, the session now goes by the new id, and the
    record stored under the new id is the session's server state. -/
theorem cycle_only_new_id (cfg : Config) (s s' : Sess κ ν) (w w' : World κ ν) (old new : Nat) (h : Inv s w)
    (hid : s.id = .toBeRenamed old new) (hs : sync cfg s w = (.ok, s', w')) :
    s'.id = .existing new ∧ old ≠ new ∧ Map.lookup w'.store old = none ∧
    (∀ m, viewSrv s.server = .present m → (Map.lookup w'.store new).map (·.state) = some m) ∧
    (s.server = none → (Map.lookup w'.store new).map (·.state) = (Map.lookup w.store old).map (·.state)) := by
  obtain ⟨hfl, -⟩ := sync_ok_flush cfg s s' w w' h hs
  have hne := (h.renamedFresh old new hid).2
  obtain ⟨hid', hold, hpresent, hunseen⟩ :=
    flush_renamed cfg (abs s) (abs s') (absW w) (absW w') old new hid hne
      ((SInv_of_Inv s w h).absentOk · old (congrArg CurId.oldId hid)) hfl
  refine ⟨hid', hne, recs_eq_none.1 hold, hpresent, fun hs => hunseen ?_⟩
  rw [abs, hs]
  rfl

/-- **C11 (invalidate)**: finalising an invalidated session hands the client a removal cookie exactly
    if the client had a session (otherwise nothing), and leaves no record behind, neither under the
    old nor under the new id. -/
theorem invalidate_removes (cfg : Config) (s s' : Sess κ ν) (w w' : World κ ν) (f : Fin κ ν) (h : Inv s w)
    (hinv : s.invalidated = true) (hf : finalize cfg s w = (f, s', w')) :
    ((f = .removal ∧ s.id.oldId.isSome = true) ∨ (f = .none ∧ s.id.oldId = none)) ∧
    (∀ o, s.id.oldId = some o → Map.lookup w'.store o = none) ∧
    Map.lookup w'.store s.id.newId = none := by
  have hm := h.invOk hinv
  obtain ⟨id, server, client, inval⟩ := s
  cases hinv
  cases hm
  cases id with
  | newlyGenerated n =>
    -- the client never had a session: no store call, no cookie
    cases hf
    exact ⟨.inr ⟨rfl, rfl⟩, nofun, (h.newFresh n rfl).1⟩
  | existing o | toBeRenamed o _ =>
    obtain ⟨e1, w1, he, ha⟩ := stDelete_abs w o
    simp only [finalize, sync, syncStore, CurId.oldId, he] at hf
    cases hf
    -- `delete o` has run: the world is `(absW w).set o none`
    refine ⟨.inl ⟨rfl, rfl⟩, fun o' e => ?_, ?_⟩
    · cases e
      apply recs_eq_none.1
      rw [ha]
      exact if_pos rfl
    · apply recs_eq_none.1
      rw [ha]
      exact (SInv_of_Inv _ _ h).unset_newId

/-- ... and a cookie whose id has no record yields no server-side state, under either policy
    (the old cookie after `invalidate()`, after `cycle_id()`, after `delete()`). -/
theorem cookie_without_record_yields_nothing (cfg : Config) (rem : Nat) (id : Nat) (c : Map κ ν) (k : κ) (w : World κ ν)
    (hl : Map.lookup w.store id = none) :
    (getRaw cfg rem k (newSession (some (id, c)) w).1 (newSession (some (id, c)) w).2).1 = .val none := by
  cases hm : cfg.missing <;> simp [getRaw, newSession, forceLoad, CurId.oldId, stLoad, hl, hm]

def exCfg : Config :=
  { ttl := 100, creation := .neverSkip, missing := .reject, extend := .onLoadsAndChanges, threshold := some (3, 4),
    cookie := { name := "id", domain := none, path := some "/", secure := true, httpOnly := true,
                sameSite := some .lax, kind := .persistent },
    crypto := { alg := .encrypt, ruleName := "id", percentEncode := true } }

/-- request 1 stores a value, request 2 deletes the record (the cookie stays valid), request 3 cycles
    the id without looking at the state. -/
def f7History : List (Req Nat Nat) :=
  [⟨.jar, false, 100, [.insert 1 7], none⟩, ⟨.jar, false, 100, [.delete], none⟩, ⟨.jar, false, 100, [.cycle], none⟩]

/-- The faithful model does **not** satisfy C11 at full strength: on `f7History` the third request
    fails (`change_id` on an unknown id) where the pair of maps goes on. Recorded as finding C11-F7;
    the behaviour is asserted by the project's own test-suite. -/
theorem C11_full_statement_false : ¬ C11_full_statement Nat Nat := by
  intro h
  have := h exCfg f7History
  revert this
  decide +kernel

example : (observed (runHistory exCfg f7History Client.init World.init)).map (·.2) =
    [.set 0 [], .set 0 [], .err (.sync f7)] := by decide +kernel

/-- The witness of the repaired `remove_raw` defect: insert; next request remove; next request get. -/
example : observed (runHistory exCfg
      [⟨.jar, false, 100, [.insert 1 7], none⟩, ⟨.jar, false, 100, [.remove 1], none⟩, ⟨.jar, false, 100, [.get 1], none⟩]
      (Client.init : Client Nat Nat) World.init) =
    [([.val none], .set 0 []), ([.val (some 7)], .set 0 []), ([.val none], .set 0 [])] := by decide +kernel

/-- `carry_over_partial` is not vacuous: a history with client and server state, an explicit sync,
    a cycled id and a replayed old cookie shows no F7. -/
example : NoF7 (observed (runHistory exCfg
      [⟨.jar, false, 100, [.insert 1 7, .cInsert 2 8, .sync, .cycle], none⟩,
       ⟨.jar, false, 10, [.get 1, .cGet 2, .cycle, .remove 1], none⟩,
       ⟨.issued 0, false, 10, [.get 1, .cGet 2], none⟩]
      (Client.init : Client Nat Nat) World.init)) := by
  intro o ho
  revert o
  decide +kernel

/-! Hypotheses of the per-state theorems are satisfiable on non-trivial instances. -/

/-- A loaded session with server and client state whose id has been cycled, and its store. -/
def exSess : Sess Nat Nat := ⟨.toBeRenamed 0 1, some (.unchanged [(1, 7)] 50), .unchanged [(2, 8)], false⟩
def exWorld : World Nat Nat := ⟨[(0, ⟨[(1, 7)], 100⟩)], 2, []⟩

theorem exInv : Inv exSess exWorld := by
  constructor <;> simp [exSess, exWorld, CurId.newId, CurId.oldId, Map.lookup]

-- `refine_step`, `carry_over`, `cycle_only_new_id`: the invariant holds, sync succeeds, a cookie comes out
example : (sync exCfg exSess exWorld).1 = .ok := by decide
example : (finalizeSession exCfg exSess exWorld).1 = .set 1 [(2, 8)] := by decide
example : (getRaw exCfg 9 1 (newSession (some (1, [(2, 8)])) (finalizeSession exCfg exSess exWorld).2.2).1
    (finalizeSession exCfg exSess exWorld).2.2).1 = .val (some 7) := by decide

-- `invalidate_removes`: an invalidated session the client knows about
def exInvalidated : Sess Nat Nat := ⟨.existing 0, some .markedForDeletion, .unchanged [(2, 8)], true⟩
example : Inv exInvalidated exWorld := by
  constructor <;> simp [exInvalidated, exWorld, CurId.newId, CurId.oldId, Map.lookup]
example : (finalize exCfg exInvalidated exWorld).1 = .removal ∧ (finalize exCfg exInvalidated exWorld).2.2.store = [] := by decide

-- `sync_fails_only_f7`: the refusal does occur (never-loaded state, cycled id, no record)
def exF7 : Sess Nat Nat := ⟨.toBeRenamed 0 1, none, .unchanged [], false⟩
example : Inv exF7 (⟨[], 2, []⟩ : World Nat Nat) := by
  constructor <;> simp [exF7, CurId.newId, CurId.oldId, Map.lookup]
example : (sync exCfg exF7 (⟨[], 2, []⟩ : World Nat Nat)).1 = .err f7 := by decide

end Pxv.Session
