import Pxv.Lemmas.ScopeProcess
import Pxv.Lemmas.StageMoves
import Pxv.Lemmas.Injection
import Pxv.Thm.C01
import Pxv.Thm.C03
import Pxv.Lemmas.Stalemate
import Pxv.Thm.C02
import Pxv.Lemmas.Complex
/-!
C04 — injection is faithful: right constructor, right scope, no illicit copies.

`get` mirrors `ConstructibleDb::get` over the scope graph `process`/`build` construct from a blueprint;
`tryClone`/`applyReqs` mirror the only way the borrow-checking passes add a clone node (through
`get_clone_component_id`); `stageCloning` mirrors the cross-middleware cloning of pipeline.rs step 4.
-/
namespace Pxv.Scope
open Pxv.CG

/-- **C04 (1) — nearest enclosing registration**: from a scope whose ancestors form a chain (every
    request handler, middleware and blueprint scope), `ConstructibleDb::get` returns what the first
    scope on the way up to the root has registered for the type. -/
theorem get_nearest (g : SGraph) (regs : List (Nat × Ctor)) (s ty : Nat)
    (hd : Decr g.parents) (hs : s ≤ g.app) (ht : TreeAbove g s) :
    get g regs s ty = firstHit (fun k => lookup regs k ty) (ancestors g s) :=
  Walk.get_nearest g regs s ty hd hs ht

/-- **C04 (1')**, in words: `get` answers `c` exactly when `c` is what the nearest ancestor-or-self
    scope with a registration for `ty` holds (every nearer scope has nothing for it). -/
theorem get_nearest_iff (g : SGraph) (regs : List (Nat × Ctor)) (s ty : Nat) (c : Ctor)
    (hd : Decr g.parents) (hs : s ≤ g.app) (ht : TreeAbove g s) :
    get g regs s ty = some c ↔
      ∃ pre a post, ancestors g s = pre ++ a :: post ∧ lookup regs a ty = some c ∧
        ∀ k ∈ pre, lookup regs k ty = none :=
  Walk.get_nearest_iff g regs s ty c hd hs ht

/-- **C04 (2) — the latest registration wins inside one scope**: what a scope holds for a type is the
    last constructor registered against that scope for that type. -/
theorem latest_wins (regs : List (Nat × Ctor)) (s ty : Nat) :
    lookup regs s ty =
      ((regs.filter (fun r => r.1 == s && r.2.ty == ty)).getLast?).map (·.2) :=
  Walk.latest_wins regs s ty

/-- **C04 (3) — registrations of parents are inherited**: a scope that has nothing for the type
    gets exactly what its parent gets. -/
theorem parent_inherited (g : SGraph) (regs : List (Nat × Ctor)) (s p ty : Nat)
    (hd : Decr g.parents) (hs : s ≤ g.app) (ht : TreeAbove g s)
    (hp : g.parents s = [p]) (hnone : lookup regs s ty = none) :
    get g regs s ty = get g regs p ty :=
  Walk.parent_inherited g regs s p ty hd hs ht hp hnone

/-- …and a scope that has a registration of its own uses it, whatever its ancestors say. -/
theorem own_registration_wins (g : SGraph) (regs : List (Nat × Ctor)) (s ty : Nat) (c : Ctor)
    (hown : lookup regs s ty = some c) : get g regs s ty = some c :=
  Walk.own_registration_wins g regs s ty c hown

/-- **C04 (4) — siblings are invisible**: registrations against scopes that are not ancestors of `s`
    (sibling blueprints, their routes, anything nested elsewhere) cannot change what `s` gets,
    wherever they sit in the registration order. -/
theorem sibling_invisible (g : SGraph) (regs extra : List (Nat × Ctor)) (s ty : Nat)
    (hd : Decr g.parents) (hs : s ≤ g.app) (ht : TreeAbove g s)
    (hout : ∀ r ∈ extra, r.1 ∉ ancestors g s) :
    get g (regs ++ extra) s ty = get g regs s ty :=
  Walk.sibling_invisible g regs extra s ty hd hs ht hout

/-- **C04 (1) with generic constructors**: `get_or_try_bind` returns what the NEAREST ancestor-or-self scope offers for the
    type, be it a concrete constructor or a generic one bound to the type; a scope further out is consulted only when
    the nearer ones offer neither. -/
theorem getT_nearest (g : SGraph) (regs : List (Nat × Ctor)) (tmpls : List (Nat × Tmpl)) (s ty : Nat)
    (hd : Decr g.parents) (hs : s ≤ g.app) (ht : TreeAbove g s) :
    getT g regs tmpls s ty = firstHit (fun k => lookupT regs tmpls k ty) (ancestors g s) :=
  bfs_nearest g _ s hd hs ht

/-- inside one scope the concrete constructor is preferred to a template -/
theorem lookupT_concrete_first (regs : List (Nat × Ctor)) (tmpls : List (Nat × Tmpl)) (s ty : Nat) (c : Ctor)
    (h : lookup regs s ty = some c) : lookupT regs tmpls s ty = some c := by
  simp [lookupT, h]

/-- a template of a nearer scope wins over a concrete constructor of a scope further out -/
theorem template_shadows_outer_concrete (g : SGraph) (regs : List (Nat × Ctor)) (tmpls : List (Nat × Tmpl)) (s ty : Nat)
    (c : Ctor) (hown : lookupT regs tmpls s ty = some c) : getT g regs tmpls s ty = some c :=
  bfs_own g _ s c hown

/-- what the theorem excludes: root (scope 0) registers a concrete constructor 7 for type 0, the nested scope 1 a template
    9 for it; from scope 1 the template wins, the fast-path variant answers with the root's constructor. -/
example :
    let g : SGraph := { app := 2, edges := [(0, 1), (1, 2)] }
    let regs : List (Nat × Ctor) := [(0, { id := 7, ty := 0 })]
    let tmpls : List (Nat × Tmpl) := [(1, { id := 9, insts := [0, 1] })]
    (getT g regs tmpls 1 0).map (·.id) = some 9 ∧ (getTFast g regs tmpls 1 0).map (·.id) = some 7 ∧
    (getT g regs tmpls 0 0).map (·.id) = some 7 := by decide +kernel

/-- a run of clone requests starts from a graph without clone nodes -/
def fresh (g : Graph) : CGraph := { g := g }

/-- **C04 (5) — a never-clone value is never duplicated**: whatever clone requests the borrow-checking
    passes issue, in whatever order (each goes through the guard), every clone node that ends up in the
    call graph copies an original node whose constructor is not `NeverClone`. -/
theorem never_clone_no_clone_node (g : Graph) (reqs : List (Nat × Nat)) :
    ∀ kd ∈ (applyReqs (fresh g) reqs).clones, kd.2 < g.size ∧ (g.node kd.2).cloneable = true := by
  intro kd h
  rcases applyReqs_origin reqs (fresh g) kd h with h1 | ⟨h1, h2, _⟩
  · simp [fresh] at h1
  · exact ⟨h2, h1⟩

/-- the guard itself: a `NeverClone` constructor (the default) never gets a `Clone` transformer. -/
theorem guard_refuses_never_clone (c : Ctor) (h : c.cloneIfNecessary = false) :
    cloneGuard (some c) = false := by simp [cloneGuard, h]

/-- a refused request leaves the call graph untouched -/
theorem tryClone_never_clone (cg : CGraph) (d c : Nat) (h : (cg.g.node d).cloneable = false) :
    tryClone cg d c = none := by simp [tryClone, h]

/-- **C04 (6) — a clone is taken from the instance it stands in for**: after any run of clone
    requests on a well-formed call graph, the only edge into a clone node is a shared borrow of the
    node it copies. -/
theorem clone_from_instance (g : Graph) (hwf : g.wellFormed = true) (reqs : List (Nat × Nat)) :
    ∀ kd ∈ (applyReqs (fresh g) reqs).clones,
      (applyReqs (fresh g) reqs).g.inEdges kd.1 = [⟨kd.2, kd.1, .shared⟩] := by
  intro kd h
  exact ((applyReqs_inv reqs (fresh g) { wf := hwf, clones := nofun }).clones kd h).2

/-- **C04 (7) — fully constructed before use**: in any order the ordering step can produce for the
    (clone-extended) call graph, the producer of every input of a node — a clone's original
    included — is placed strictly before it. -/
theorem built_before_use {g : Graph} {σ : List Nat} (h : isRun g σ = true) {t : Nat} (ht : t ∈ σ)
    {e : Edge} (he : e ∈ g.inEdges t) : e.src ∈ σ ∧ pos σ e.src < pos σ t :=
  run_topo h ht (pred_of_inEdge he)

/-- …in particular the copied instance exists before its clone is taken, and the clone before the
    consumer it was made for runs. -/
theorem clone_built_in_order (g : Graph) (hwf : g.wellFormed = true) (reqs : List (Nat × Nat))
    {σ : List Nat} (hrun : isRun (applyReqs (fresh g) reqs).g σ = true) :
    ∀ kd ∈ (applyReqs (fresh g) reqs).clones, kd.1 ∈ σ → kd.2 ∈ σ ∧ pos σ kd.2 < pos σ kd.1 := by
  intro kd h hk
  have hin := clone_from_instance g hwf reqs kd h
  have : (⟨kd.2, kd.1, .shared⟩ : Edge) ∈ (applyReqs (fresh g) reqs).g.inEdges kd.1 := by simp [hin]
  exact built_before_use hrun hk this

/-- **C04 (1) on the scope graph pavexc really builds**: for every blueprint — any nesting, any
    interleaving of registrations — and every scope of it other than the application-state scope
    (blueprints, request handlers, middlewares), `get` returns the registration held by the nearest
    ancestor-or-self scope that has one. -/
theorem get_nearest_process (b : Bp) (s ty : Nat) (hs : s < (process b).next) :
    get (build (process b)) (process b).regs s ty =
      firstHit (fun k => lookup (process b).regs k ty) (ancestors (build (process b)) s) :=
  have hwf := process_wf b
  Walk.get_nearest _ _ _ _ (build_decr _ hwf) (Nat.le_of_lt hs) (treeAbove_build _ hwf s hs)

/-- **C04 — the blueprint decides**: for every blueprint — arbitrary nesting, registrations in any order, before
    or after the routes, several for one type — every route's request handler resolves every type to what the
    documented rule designates: the latest registration of the nearest enclosing blueprint that registers the type
    (`designated`, read off the blueprint tree alone). Sibling blueprints never show up in it. -/
theorem get_designated (b : Bp) (ty : Nat) :
    ∀ rk ∈ (process b).routes,
      (rk.1, get (build (process b)) (process b).regs rk.2 ty) ∈ designated b ty := by
  -- the root's own registrations, then its fallback, then the nested blueprints
  have hw := walkOwn_spec b 0 {} wf_init (by decide)
  have hn : Nested _ 0 _ (process b) :=
    kids_spec b 0 _ (addScope_wf _ 0 hw.wf hw.wf.pos) (Nat.succ_pos _)
  obtain ⟨hlook, hown⟩ := own_resolve hw (by decide) (by simp) hn.wf ((ext_addScope _ 0).trans hn.ext) ty
  have henv : getF (process b) 0 ty = ownLast b ty := by rw [getF_root _ hn.wf, hlook]
  intro rk hrk
  rw [designated, List.mem_append]
  rcases hn.resolves ty _ _ hn.wf (Ext.refl _) henv rk hrk with hroot | hnested
  · rcases hown rk hroot with hnone | ⟨hroute, hget⟩
    · cases hnone
    · exact Or.inl (List.mem_map.2 ⟨rk.1, hroute, by rw [← henv, ← hget, getF]⟩)
  · exact Or.inr hnested

/-- **C04 — the blueprint decides, for middlewares too**: every middleware resolves every type to what the rule
    designates for it (`designatedM`: a middleware sees what the blueprint it is registered against sees — not what the
    routes it wraps see). -/
theorem get_designated_mw (b : Bp) (ty : Nat) :
    ∀ rk ∈ (process b).mws,
      (rk.1, get (build (process b)) (process b).regs rk.2 ty) ∈ designatedM b ty := by
  -- the walk does not tell middlewares from routes: exchange them
  intro rk hrk
  have := get_designated b.swap ty rk (by rw [process_swap]; exact hrk)
  rwa [process_swap, designated_swap] at this

/-- **C04 — no illicit copy between the middlewares of a stage**: when step 4 of the pipeline accepts a
    stage, every index at which it makes the generated stage function pass `value.clone()` belongs to a
    middleware that takes that type by value from a constructor whose cloning policy allows it; a
    never-clone value that would have to be duplicated makes the stage be rejected instead. -/
theorem stage_never_clone (mws : List (List StageInput)) (t : List (Nat × List Nat))
    (h : stageCloning mws = .ok t) :
    ∀ ty idxs, (ty, idxs) ∈ t → ∀ i ∈ idxs,
      ∃ inp ∈ (mws[i]?).getD [], inp.ty = ty ∧ inp.byRef = false ∧ inp.cloneable = true := by
  intro ty idxs hmem i hi
  rw [stageCloning_eq] at h
  obtain ⟨-, hrows⟩ := foldl_stageStep _ [] t h
  -- a row of `t` comes from an entry `e` of the table: its type, and the indexes `cloningFor` gives
  rcases (hrows (ty, idxs)).1 hmem with hnil | ⟨e, he, hidxs, hkey⟩
  · cases hnil
  obtain ⟨inp, hin, hty, r⟩ := collectAll_sound mws e he (i, true) (cloningFor_ok hidxs i hi)
  exact ⟨inp, hin, hty.trans hkey, r⟩

-- Non-vacuity: root(0) ⊃ blueprint 1 ⊃ route scope 3; sibling blueprint 2. T7 is registered twice in the
-- root (ids 10 then 11), overridden in blueprint 1 (id 12) and registered in the sibling (id 13).
example :
    let g : SGraph := { app := 4, edges := [(0, 1), (0, 2), (1, 3), (0, 4), (1, 4)] }
    let regs : List (Nat × Ctor) := [(0, ⟨10, 7, .request, false⟩), (2, ⟨13, 7, .request, false⟩),
      (0, ⟨11, 7, .request, true⟩), (1, ⟨12, 7, .request, false⟩), (0, ⟨14, 8, .singleton, false⟩)]
    ancestors g 3 = [3, 1, 0] ∧ (get g regs 3 7).map (·.id) = some 12 ∧ (get g regs 3 8).map (·.id) = some 14 ∧
    (get g regs 2 7).map (·.id) = some 13 ∧ (get g regs 0 7).map (·.id) = some 11 ∧ get g regs 3 9 = none ∧
    g.parents 4 = [0, 1] := by decide +kernel
-- a cloneable node 0 moved into 1 and 2: the request (0,1) inserts clone node 3; a never-clone node is refused
example :
    let g : Graph := { nodes := [{ cloneable := true }, {}, {}], edges := [⟨0, 1, .move⟩, ⟨0, 2, .move⟩] }
    (applyReqs (fresh g) [(0, 1)]).clones = [(3, 0)] ∧
    (applyReqs (fresh g) [(0, 1)]).g.inEdges 3 = [⟨0, 3, .shared⟩] ∧
    (applyReqs (fresh g) [(1, 2), (0, 1), (0, 1)]).clones = [(3, 0)] ∧
    g.wellFormed = true ∧ isRun (applyReqs (fresh g) [(0, 1)]).g [0, 3, 1, 2] = true := by decide +kernel

-- Non-vacuity (scope graph of a real blueprint): root registers T7 twice (ids 10, 11), a route, and nests a blueprint that
-- overrides T7 (id 12) and has a route and a middleware; a second nested blueprint has only a route.
example :
    let b : Bp := .cons (.ctor ⟨10, 7, .request, false⟩) (.cons (.route 0) (.cons (.ctor ⟨11, 7, .request, true⟩)
      (.cons (.nest (.cons (.mw 0) (.cons (.route 1) (.cons (.ctor ⟨12, 7, .request, false⟩) .nil))))
      (.cons (.nest (.cons (.route 2) .nil)) .nil))))
    let st := process b
    st.routes = [(0, 1), (2, 4), (1, 7)] ∧ st.mws = [(0, 6)] ∧ st.nested = [(3, 0), (5, 0)] ∧ st.next = 8 ∧
    (build st).parents 8 = [0, 3, 5] ∧ ancestors (build st) 7 = [7, 5, 0] ∧
    ((get (build st) st.regs 7 7).map (·.id), (get (build st) st.regs 4 7).map (·.id), (get (build st) st.regs 1 7).map (·.id),
      (get (build st) st.regs 6 7).map (·.id)) = (some 12, some 11, some 11, some 12) ∧
    (designated b 7).map (fun x => (x.1, x.2.map (·.id))) = [(0, some 11), (1, some 12), (2, some 11)] ∧
    (designatedM b 7).map (fun x => (x.1, x.2.map (·.id))) = [(0, some 12)] := by decide +kernel

end Pxv.Scope

section
open Pxv.Scope
-- Non-vacuity (stage pass): pre `p(T0)`, handler `h(T0)`, post `q(&T0)` of one stage: both by-value uses need a clone when
-- the constructor allows it; with a never-clone constructor the stage is rejected at the first of them.
abbrev StageView := Option (List (Nat × List Nat)) × Option Nat
def stageView (r : Except Nat (List (Nat × List Nat))) : StageView :=
  match r with
  | .ok t => (some t, none)
  | .error i => (none, some i)
example : stageView (stageCloning [[⟨0, false, true, false⟩], [⟨0, false, true, false⟩], [⟨0, true, true, false⟩]]) =
    ((some [(0, [0, 1])], none) : StageView) := by decide +kernel
example : stageView (stageCloning [[⟨0, false, false, false⟩], [⟨0, false, false, false⟩], [⟨0, true, false, false⟩]]) =
    ((none, some 0) : StageView) := by decide +kernel
example : stageView (stageCloning [[⟨0, false, false, false⟩], [⟨0, true, false, false⟩]]) = ((none, some 0) : StageView) := by
  decide +kernel
example : stageView (stageCloning [[⟨0, true, false, false⟩], [⟨0, false, false, false⟩]]) = ((some [], none) : StageView) := by
  decide +kernel
end

namespace Pxv.Life
open Pxv.Scope

/-- **[finding]** the full statement is false of the faithful model: the handler and the post-processor of the
    nested blueprint receive the value of the root's constructor, which their own scope does not designate. -/
theorem injection_statement_false : ¬ injection_statement := by
  intro h
  have := h wEnv (fun _ => some 0) wChain wH (by decide)
  revert this
  decide +kernel

/-- **C04, proved part — injection is faithful in uniform pipelines**: when the handler and the
    middlewares of a route resolve every type the same way (no blueprint between them overrides a
    constructor that an enclosing middleware sees), every input of every one of them that the
    generated pipeline fills with a constructed value — directly in the component's closure or through
    any number of `Next` states — was built by the constructor the component's scope designates. -/
theorem injection_partial (env : Env) (tyOf : Nat → Option Nat) (chain : List Comp) (h : Comp)
    (lk : Nat → Option CDef) (hu : UidInj lk) (hun : Uniform env lk chain h) :
    faithful env (plan env tyOf chain h) = true := by
  have hok := plan_ok env tyOf chain h lk hu hun
  generalize plan env tyOf chain h = p at hok
  unfold faithful
  rw [List.all_eq_true]
  intro x hx
  obtain ⟨cp, ci⟩ := x
  rw [List.mem_zipIdx_iff_getElem?] at hx
  simp only at hx
  have hcp := List.mem_of_getElem? hx
  obtain ⟨hpok, hsc⟩ := hok cp hcp
  unfold faithfulAt
  rw [List.all_eq_true]
  intro y hy
  obtain ⟨⟨ty, m⟩, s⟩ := y
  obtain ⟨j, hj⟩ := List.mem_iff_getElem?.mp hy
  rw [List.getElem?_zip_eq_some] at hj
  have hans := hpok.args j (ty, m) s hj.1 hj.2
  simp only
  cases s with
  | built i =>
    obtain ⟨n, hn1, hn2⟩ := hans
    simp only [Plan.origin, Plan.ctorAt, hx, Option.bind_some, hn1, Option.map_some]
    rw [hsc]
    simpa using hn2
  | param t =>
    simp only [Ans] at hans
    subst hans
    simp only [Plan.origin, hx]
    cases ho : p.originOfParam cp.stage t with
    | app t' => simp [Plan.ctorAt]
    | stuck => simp [Plan.ctorAt]
    | node w i =>
      obtain ⟨wp, n, h1, h2, h3⟩ := originOfParam_ok p lk (fun cp hcp => (hok cp hcp).1) _ _ _ _ ho
      simp only [Plan.ctorAt, h1, Option.bind_some, h2, Option.map_some]
      rw [hsc]
      simpa using h3

-- Non-vacuity: the uniform pipeline of Thm/C03 (hoisting through `Next1` included) is faithful
example : Uniform exEnv exLk exChain exH := fun _ _ => rfl
example : faithful exEnv exPlan = true := by decide +kernel
example : UidInj exLk := uidInj_of_table exTab (by decide)
-- the guard is not vacuous: the pipeline of the compiler-panic witness (root post `m1(&T0)` + pre `m2(&T0)` share
-- `c0`, the route's blueprint overrides T0 with `c0b` and its handler takes &T0) has two nodes for `c0b`.
example :
    let env : Env := { get := fun s t => if t = 0 then (if s = 1 ∨ s = 2 then some wC0 else some wC0b) else none, fuel := 3 }
    let p := plan env (fun _ => some 0) [⟨.noop, 0, 5, []⟩, ⟨.post, 1, 1, [(0, .ref)]⟩, ⟨.pre, 2, 2, [(0, .ref)]⟩] ⟨.handler, 0, 5, [(0, .ref)]⟩
    p.invariantsOk = false ∧ p.count 100 = 2 := by decide +kernel
-- the witness of `injection_statement_false` passes the guard and delivers `c0` where `c0b` is designated
example : (plan wEnv (fun _ => some 0) wChain wH).invariantsOk = true ∧
    ((plan wEnv (fun _ => some 0) wChain wH).comps[2]?.map (fun c => c.args.map ((plan wEnv (fun _ => some 0) wChain wH).origin 2))) = some [.node 1 0] ∧
    (plan wEnv (fun _ => some 0) wChain wH).ctorAt (.node 1 0) = some wC0 ∧ wEnv.get 5 0 = some wC0b := by decide +kernel

end Pxv.Life

namespace Pxv.CG
open Graph

/-- The last pass after any earlier ones: if `g` is the input graph `g0` plus clones of clone-if-necessary
    nodes of `g0`, so is what the pass makes of `g`. For `g0 = g` this is
    `stalemate_pass_only_clones_cloneable`; `complex_pass_only_clones_cloneable` supplies both hypotheses
    with `g0` the graph `complexCheck` was given and `g` what it made of it. -/
theorem stalemate_pass_onlyClones {g0 g : Graph} (hwf : g.wellFormed = true)
    (h0 : OnlyClones g0 g) : OnlyClones g0 (resolveStalemates g).1 :=
  resolveLoop_onlyClones g0 _ g [] [] hwf h0

/-- **C04 — no illicit copy by the last borrow-checking pass**: every edge `resolveStalemates` (the mirror of
    `ordering_stalemates`, repo commit 437e3c1, compared with the real pass on every call graph) adds to a well-formed
    call graph is either the shared borrow through which a new node clones a node of the input graph whose constructor
    is clone-if-necessary, or the hand-over of such a new node to its consumer; new nodes are never cloned themselves. -/
theorem stalemate_pass_only_clones_cloneable {g : Graph} (hwf : g.wellFormed = true) :
    OnlyClones g (resolveStalemates g).1 :=
  stalemate_pass_onlyClones hwf (onlyClones_refl g)

-- on the ring whose second value only may be cloned: one new node (7), cloning node 1, moved into node 4
example : (resolveStalemates exCross2).1.edges.filter (fun e => !(exCross2.edges.contains e)) =
    [⟨1, 7, .shared⟩, ⟨7, 4, .move⟩] := by decide +kernel

/-- **C04 — no illicit copy by `complex_borrow_check` either**: every edge `complexCheck` (the statement-by-statement mirror
    of the pass, compared with the real pass on every call graph) adds to a well-formed call graph is either the shared
    borrow through which a new node clones a node of the input graph whose constructor is clone-if-necessary, or the
    hand-over of such a new node to its consumer; new nodes are never cloned themselves; and the result is well-formed, so
    the hypotheses of `stalemate_pass_only_clones_cloneable` hold for the pass that runs next. Whatever the traversal does
    (parking, strategy switches, early exits of the visiting loop) is irrelevant to this. -/
theorem complex_pass_only_clones_cloneable {g : Graph} (hwf : g.wellFormed = true) :
    OnlyClones g (complexCheck g).g ∧ (complexCheck g).g.wellFormed = true :=
  ⟨(complexCheck_ginv hwf).2, (complexCheck_ginv hwf).1⟩

/-- **C04 — the two passes in sequence**: what `ordering_stalemates` adds when it runs on the output of
    `complex_borrow_check`, relative to the graph between the two passes: every new edge is the shared borrow through
    which a new node clones a clone-if-necessary node of that intermediate graph, or the hand-over of the new node to its
    consumer. By `complex_pass_only_clones_cloneable` the clone-if-necessary nodes of the intermediate graph are those of
    `g`: a node the first pass added may not be cloned. -/
theorem complex_then_stalemate_only_clone_cloneable {g : Graph} (hwf : g.wellFormed = true) :
    OnlyClones (complexCheck g).g (resolveStalemates (complexCheck g).g).1 :=
  stalemate_pass_only_clones_cloneable (complex_pass_only_clones_cloneable hwf).2

-- `A` may be cloned, `B` may not: the one new node (5) clones `A` for `D`
example : (exX true false).wellFormed = true ∧
    (complexCheck (exX true false)).g.edges.filter (fun e => !((exX true false).edges.contains e)) = [⟨0, 5, .shared⟩, ⟨5, 2, .move⟩] := by
  decide +kernel

end Pxv.CG
