import Pxv.Lemmas.Order
import Pxv.Lemmas.MultipleConsumers
import Pxv.Lemmas.StageMoves
import Pxv.Lemmas.Bindings
/-!
C01 — accepted blueprints yield an SDK that compiles: the ownership part.

`OwnSafe g σ A` is the specification (mini Rust ownership rules for the statements of control-flow
path `A` executed in order `σ`); `isRun g σ` says `σ` is an order that pavexc's ordering step
(`OrderedCallGraph::order`) may produce for the call graph `g`, whatever traversal strategy it uses.
-/
namespace Pxv.CG
open Graph

/-- **order, invariant 1 (topological)**: in any run, every dependency of a placed node — data or
    happens-before — was placed strictly earlier. -/
theorem run_topo {g : Graph} {σ : List Nat} (h : isRun g σ = true) {t p : Nat}
    (ht : t ∈ σ) (hp : p ∈ g.preds t) : p ∈ σ ∧ pos σ p < pos σ t :=
  isRun_before h ht fun _ hc => (canPlace_iff_preds.mp hc p hp).1

/-- **order, invariant 2 (borrowers first)**: in any run, when a node that takes a non-Copy value
    by value is placed, every node that borrows that value — directly, or by using a value that
    holds a reference to it — has been placed strictly earlier.
    This is what `is_blocked` enforces; it holds for every traversal order. -/
theorem run_borrowersFirst {g : Graph} {σ : List Nat} (h : isRun g σ = true) {d c b : Nat}
    (hc : c ∈ σ) (hcons : c ∈ g.consumers d) (hcopy : (g.node d).copy = false)
    (hb : b ∈ allBorrowers g d) : b ∈ σ ∧ pos σ b < pos σ c :=
  isRun_before h hc fun _ hcp =>
    (canPlace_iff_preds.mp hcp d (pred_of_consumer hcons)).2 hcons hcopy b hb

/-- The executable checker decides exactly the specification. -/
theorem ownCheck_iff (g : Graph) (σ A : List Nat) : ownCheck g σ A = true ↔ OwnSafe g σ A :=
  decide_eq_true_iff

/-- The graph-level facts from which ownership safety of the emitted body follows. `holdersFirst`
    is the one the ordering step does **not** establish when outputs capture borrows. -/
theorem safe_of_run_holdersFirst {g : Graph} {σ A : List Nat}
    (hrun : isRun g σ = true) (hA : predClosed g A = true) (hone : oneMover g A = true)
    (hwf : g.wellFormed = true) (hhold : holdersFirst g σ A = true) : OwnSafe g σ A := by
  refine ⟨isRun_nodup hrun, ?_, ?_, of_decide_eq_true hhold⟩
  · intro t ht htA e he _
    have hp := pred_of_inEdge he
    have := List.all_eq_true.mp (List.all_eq_true.mp hA t htA) _ hp
    exact ⟨(run_topo hrun ht hp).1, by simpa using this, (run_topo hrun ht hp).2⟩
  · -- `t` uses `e.src`; `c` is another node of the path that takes it by value
    intro t ht htA e he hdat hcopy c hc hcA hne hcons
    by_cases hk : e.kind = .move
    · -- `t` moves it too: contradicts `oneMover`
      have hsrc := (lt_size_of_mem_edges hwf (mem_inEdges.mp he).1).1
      exact absurd (oneMover_spec hone hsrc hcopy hcons (consumer_of_inEdge he hk) hcA htA) hne
    · -- `t` borrows it: borrowers are placed before the consumer
      have hk : e.kind = .shared ∨ e.kind = .excl := by
        cases h : e.kind <;> simp_all [Edge.isData]
      have hbor : t ∈ allBorrowers g e.src := List.mem_append_left _ (borrower_of_inEdge he hk)
      exact (run_borrowersFirst hrun hc hcons hcopy hbor).2

/-- no `&mut` borrow targets a value that some other value holds a reference to. A hypothesis:
    `move_while_borrowed` reports "tried to borrow mutably while borrowed immutably" only when the holder
    is an input or a descendant of the borrowing node (its mirror accepts `exclWitness` below). -/
def exclClean (g : Graph) : Bool :=
  g.edges.all (fun e => e.kind != .excl || (List.range g.size).all (fun w => !holds g w e.src))

theorem exclClean_of_captureFree {g : Graph} (h : captureFree g = true) : exclClean g = true := by
  simp [exclClean, holds, held_of_captureFree h]

/-- **order, invariant 3 (holders first)**: since the ordering step counts the users of a value
    that holds a reference to `d` among the borrowers of `d`, every run places them before the
    node that takes `d` by value — for every traversal order. -/
theorem run_holdersFirst {g : Graph} {σ A : List Nat} (hrun : isRun g σ = true)
    (hwf : g.wellFormed = true) (hex : exclClean g = true) : holdersFirst g σ A = true := by
  refine decide_eq_true fun t ht _ e he hk w _ _ hh _ u _ _ huse => ?_
  rcases hk with ⟨hmove, hcopy⟩ | hexcl
  · by_cases hud : u = e.src
    · -- the value itself precedes its consumer
      exact hud ▸ (run_topo hrun ht (pred_of_inEdge he)).2
    · -- `u` uses `w`, which holds a reference to `e.src`: it is one of its borrowers
      obtain ⟨e', he', hdata, rfl⟩ := inEdge_of_user huse
      have hu := (lt_size_of_mem_edges hwf (mem_inEdges.mp he').1).2
      rw [(mem_inEdges.mp he').2] at hu
      have hbor : u ∈ allBorrowers g e.src := by
        refine List.mem_append_right _ ?_
        simp only [holderUsers, List.mem_filter, List.mem_range, Bool.and_eq_true, bne_iff_ne,
          ne_eq, List.any_eq_true]
        exact ⟨hu, hud, e', he', hdata, hh⟩
      exact (run_borrowersFirst hrun ht (consumer_of_inEdge he hmove) hcopy hbor).2
  · -- `&mut` of a value that `w` holds: excluded by `exclClean`
    have := List.all_eq_true.mp hex e (mem_inEdges.mp he).1
    simp only [hexcl, bne_self_eq_false, Bool.false_or, List.all_eq_true, Bool.not_eq_true'] at this
    exact absurd hh (by simp [this w (List.mem_range.mpr (lt_size_of_holds hh))])

/-- **C01 (ordering, full)**: for every well-formed call graph that passed the `&mut` check, every
    order the ordering step can produce — whatever traversal strategy — is ownership-safe on every
    control-flow path on which each non-Copy value has a single by-value consumer, *whatever the
    components capture*. (After fix: capture-aware ordering. Before it this statement was false:
    see `witness_not_a_run_anymore`.) -/
theorem C01_order_safe {g : Graph} {σ A : List Nat}
    (hrun : isRun g σ = true) (hA : predClosed g A = true) (hone : oneMover g A = true)
    (hwf : g.wellFormed = true) (hex : exclClean g = true) : OwnSafe g σ A :=
  safe_of_run_holdersFirst hrun hA hone hwf (run_holdersFirst hrun hwf hex)

/-- **C01, proved part**: for call graphs whose components do not keep borrows alive in their
    outputs, every order the ordering step can produce is ownership-safe on every control-flow
    path on which each non-Copy value has a single by-value consumer — for every graph shape,
    every mix of `&`, `&mut`, by-value and happens-before edges, every traversal strategy. -/
theorem C01_partial {g : Graph} {σ A : List Nat}
    (hrun : isRun g σ = true) (hA : predClosed g A = true) (hone : oneMover g A = true)
    (hwf : g.wellFormed = true) (hcf : captureFree g = true) : OwnSafe g σ A :=
  C01_order_safe hrun hA hone hwf (exclClean_of_captureFree hcf)

/-- **multiple_consumers, cloning loop**: after the loop has handled a contended cloneable value `n`,
    every competing set (the consumers of `n` that reach one sink, i.e. lie on one control-flow path)
    contains at most one node that still takes `n` by value — the others now consume their own clone —
    and nothing but those consumers lost its edge. This is the `oneMover` hypothesis of
    `C01_order_safe`, established per competing set by the pass that the model mirrors
    (`Pxv/Model/Borrow.lean`, compared with the real pass on every call graph of every run). -/
theorem mc_one_mover_per_set (g : Graph) (n : Nat) (hn : n < g.size) (sets : List (List Nat)) :
    let g' := (mcCloneSets g n sets).1
    (∀ set ∈ sets, ∀ c1 ∈ set, ∀ c2 ∈ set, c1 ∈ g'.consumers n → c2 ∈ g'.consumers n → c1 = c2) ∧
    (∀ c ∈ g'.consumers n, c ∈ g.consumers n) := by
  have inv := mcCloneSets_inv g n hn sets
  simp only [inv.consumers, List.mem_filter, Bool.not_eq_true']
  exact ⟨fun set hs c1 hc1 c2 hc2 m1 m2 => inv.single set hs c1 hc1 c2 hc2 m1.2 m2.2,
    fun c hc => hc.1⟩

-- non-vacuity: the diamond `a -> c (move)`, `a -> d (move)`, both feeding the handler: one clone.
def mcDiamond : Graph :=
  { nodes := [{ cloneable := true }, {}, {}, {}],
    edges := [⟨0, 1, .move⟩, ⟨0, 2, .move⟩, ⟨1, 3, .move⟩, ⟨2, 3, .move⟩] }
example : (mcCloneSets mcDiamond 0 [[1, 2]]).1.consumers 0 = [2] ∧
    (multipleConsumers mcDiamond).2 = [] ∧ ((multipleConsumers mcDiamond).1.consumers 0) = [2] := by
  decide +kernel

/-- The full-strength statement: *whatever* the components capture and borrow. -/
def C01_statement : Prop :=
  ∀ (g : Graph) (σ A : List Nat), g.wellFormed = true → isRun g σ = true → isComplete g σ = true →
    predClosed g A = true → oneMover g A = true → OwnSafe g σ A

/-- The call graph of `a()->A, c(&A)->C<'_>, f(&C)->F, e(C)->E, b(A)->B, h(F,B,E)`:
    nodes 0=h 1=f 2=b 3=e 4=c 5=a 6=into_response. -/
def witnessGraph : Graph :=
  { nodes := [{}, {}, {}, {}, { tied := [5], direct := [5] }, {}, {}],
    edges := [⟨3, 0, .move⟩, ⟨4, 3, .move⟩, ⟨5, 4, .shared⟩, ⟨2, 0, .move⟩, ⟨5, 2, .move⟩,
              ⟨1, 0, .move⟩, ⟨4, 1, .shared⟩, ⟨0, 6, .move⟩] }

/-- the order pavexc used to emit for it: a, c, b, f, e, h, into_response (E0505). -/
def witnessOrder : List Nat := [5, 4, 2, 1, 3, 0, 6]

/-- **[fixed finding]** the order that made rustc reject the SDK is ownership-unsafe, and is no
    longer an order the ordering step can produce; the model's own order for the witness is safe. -/
theorem witness_not_a_run_anymore :
    ownCheck witnessGraph witnessOrder (List.range 7) = false ∧ isRun witnessGraph witnessOrder = false ∧
    (order witnessGraph).map (fun σ => ownCheck witnessGraph σ (List.range 7)) = some true := by
  decide +kernel

/-- What remains outside the ordering theorem: `&mut` borrows of captured values are not ordered
    by this step — the full statement without `exclClean` is false of the ordering step alone.
    Nodes: 0=h(U,M) 1=u(C)->U 2=m(&mut A)->M 3=c(&A)->C<'_> 4=a 5=into_response. -/
def exclWitness : Graph :=
  { nodes := [{}, {}, {}, { tied := [4], direct := [4] }, {}, {}],
    edges := [⟨1, 0, .move⟩, ⟨2, 0, .move⟩, ⟨3, 1, .move⟩, ⟨4, 2, .excl⟩, ⟨4, 3, .shared⟩, ⟨0, 5, .move⟩] }

theorem C01_statement_false : ¬ C01_statement := fun h =>
  absurd (h exclWitness [4, 3, 2, 1, 0, 5] (List.range 6) (by decide +kernel) (by decide +kernel)
    (by decide +kernel) (by decide +kernel) (by decide +kernel)) (by decide +kernel)

-- Non-vacuity: a capture-free diamond (`a` borrowed by `c`, moved into `d`; ui_tests diamond)
-- meets every hypothesis of `C01_partial`, and its only legal orders put the borrower first.
example : let g : Graph := { nodes := [{}, {}, {}, {}],
                             edges := [⟨0, 1, .shared⟩, ⟨0, 2, .move⟩, ⟨1, 3, .move⟩, ⟨2, 3, .move⟩] }
    isRun g [0, 1, 2, 3] = true ∧ isRun g [0, 2, 1, 3] = false ∧ predClosed g [0, 1, 2, 3] = true ∧
    oneMover g [0, 1, 2, 3] = true ∧ g.wellFormed = true ∧ captureFree g = true ∧
    order g = some [0, 1, 2, 3] := by decide +kernel
-- the hypotheses of `C01_order_safe` are met by the witness graph and its legal orders:
example : isRun witnessGraph [5, 4, 1, 3, 2, 0, 6] = true ∧ exclClean witnessGraph = true ∧
    ownCheck witnessGraph [5, 4, 1, 3, 2, 0, 6] (List.range 7) = true := by decide +kernel

end Pxv.CG


/-! ### across the middlewares of one stage (pipeline.rs step 4, `type2cloning_indexes`)

Each call graph is borrow-checked on its own; a request-scoped value that several middlewares of one stage (pre-processors,
the handler / next stage, post-processors) take is handed to each of them by the generated stage function, which passes
`value.clone()` at the indexes step 4 computes and the value itself elsewhere. `stageCloning` (Model/Scope.lean) mirrors
that analysis and is compared with the real one on every stage of every generated application (hook 64e5e26, ev = stage4). -/
namespace Pxv.Scope

/-- **no use after the move, across a stage**: when step 4 accepts a stage, a middleware that is handed a non-Copy value
    itself (it takes the type by value and its index is not among the cloning indexes of that type) is the last
    middleware of the stage to touch that type: no later one takes it, by value or by reference. For every number of
    middlewares, every mix of types and every pattern of by-value / by-reference inputs. -/
theorem stage_moves_sound (mws : List (List StageInput)) (t : List (Nat × List Nat))
    (h : stageCloning mws = .ok t)
    (i : Nat) (mwi : List StageInput) (inp : StageInput) (hi : mws[i]? = some mwi) (hin : inp ∈ mwi)
    (hval : inp.byRef = false)
    (hcopy : ∀ e ∈ collectAll [] 0 mws, e.1 = inp.ty → e.2.copy = false)
    (hnot : ∀ idxs, (inp.ty, idxs) ∈ t → i ∉ idxs) :
    ∀ (j : Nat) (mwj : List StageInput) (inp' : StageInput), i < j → mws[j]? = some mwj → inp' ∈ mwj →
      inp'.ty ≠ inp.ty := by
  -- everything the stage hands out has been recorded
  obtain ⟨k', hC⟩ :=
    collectAll_complete mws 0 (fun _ _ => False) [] complete_empty (fun _ _ hp => hp.elim)
  have hP : ∀ (a : Nat) (mw : List StageInput) (x : StageInput), mws[a]? = some mw → x ∈ mw →
      (False ∨ ∃ d mw', mws[d]? = some mw' ∧ a = 0 + d ∧ x ∈ mw') :=
    fun a mw x ha hx => Or.inr ⟨a, mw, ha, by omega, hx⟩
  obtain ⟨e, he, hek, c, hc⟩ := hC.vals i inp (hP i mwi inp hi hin) hval
  -- its entry is not an error, and (i, c) is not among the consumers that get a clone
  rw [stageCloning_eq] at h
  have hok := (foldl_stageStep_ok _ [] t h).2 e he
  have hcp := hcopy e he hek
  have hout : (i, c) ∉ consumersOf e.2 := by
    intro hmem
    simp only [cloningFor, hcp, Bool.false_eq_true, if_false] at hok
    split at hok
    · rename_i hemp
      rw [List.isEmpty_iff.mp hemp] at hmem
      cases hmem
    · split at hok
      · simp at hok
      · simp only [reduceCtorEq, Option.some.injEq, Except.ok.injEq, false_or,
          exists_eq_left'] at hok
        exact hnot _ (hek ▸ hok) (List.mem_map.mpr ⟨(i, c), hmem, rfl⟩)
  obtain ⟨hlast, hrefs⟩ := not_consumer_is_last (hC.sorted e he).1 (hC.sorted e he).2 hc hout
  -- a later access of the same type contradicts one of the two
  intro j mwj inp' hij hj hinj hty
  cases hr : inp'.byRef
  · obtain ⟨e', he', hek', c', hc'⟩ := hC.vals j inp' (hP j mwj inp' hj hinj) hr
    rw [hC.uniq e' he' e he (by rw [hek', hty, hek])] at hc'
    exact absurd (hlast (j, c') hc') (Nat.not_le.mpr hij)
  · have hji :=
      hrefs j (hC.refs e he (i, c) hc j inp' (hP j mwj inp' hj hinj) hij (by rw [hty, hek]) hr)
    exact absurd hji (Nat.lt_asymm hij)

-- Non-vacuity: move, borrow, move, borrow of one clone-if-necessary type: both movers get a clone (the second one only
-- because of the trailing borrow); move, borrow, move: only the first; and the hypotheses of the theorem are met by
-- the last mover of the second stage.
def exMBMB : List (List StageInput) :=
  [[⟨0, false, true, false⟩], [⟨0, true, false, false⟩], [⟨0, false, true, false⟩], [⟨0, true, false, false⟩]]
def okView (r : Except Nat (List (Nat × List Nat))) : Option (List (Nat × List Nat)) :=
  match r with | .ok t => some t | .error _ => none
theorem okView_some {r : Except Nat (List (Nat × List Nat))} {t : List (Nat × List Nat)} (h : okView r = some t) : r = .ok t := by
  cases r with
  | ok t' => exact congrArg Except.ok (Option.some.inj h)
  | error _ => cases h
example : stageCloning exMBMB = .ok [(0, [0, 2])] := okView_some (by decide +kernel)
example : stageCloning (exMBMB.take 3) = .ok [(0, [0])] ∧
    (∀ e ∈ collectAll [] 0 (exMBMB.take 3), e.1 = 0 → e.2.copy = false) ∧
    (∀ idxs, ((0 : Nat), idxs) ∈ [((0 : Nat), [(0 : Nat)])] → 2 ∉ idxs) := by
  refine ⟨okView_some (by decide +kernel), by decide +kernel, ?_⟩
  simp
/-- what a seeded change did (C01-4): decide whether the last mover needs a clone by looking at the FIRST recorded borrow
    instead of the last one. On move, borrow, move, borrow the last mover then gets the value itself although a
    later middleware borrows it: `stage_moves_sound` fails for that variant. -/
def consumersOfFirst (ci : CloningInfo) : List (Nat × Bool) :=
  match ci.refBy.head? with
  | some r =>
    match ci.consumedBy.getLast? with
    | some last => if r < last.1 then ci.consumedBy.dropLast else ci.consumedBy
    | none => ci.consumedBy
  | none => ci.consumedBy.dropLast
example : ((collectAll [] 0 exMBMB).map (fun e => ((consumersOfFirst e.2).map (·.1), (consumersOf e.2).map (·.1)))) =
    [([0], [0, 2])] := by decide +kernel

end Pxv.Scope

/-! ### how a stage function hands its parameters on (`Bindings::get_expr_for_type`, processing_pipeline/codegen.rs) -/
namespace Pxv.Bind

/-- **C01 — the invocations inside a generated stage function type-check against its signature**: resolve, in invocation
    order, the inputs of every pre-processor, of the wrapping middleware / handler and of every post-processor of a stage
    with `get_expr_for_type` (mirrored by `getExpr`; a post-processor also sees the temporary `response`), then render the
    signature from the bindings as the loop leaves them. Every argument is then the parameter itself when the types agree
    (or `&mut T` where `&T` is wanted), `&param`, or `&mut param` with `param` declared `mut` — for any number of parameters,
    components and inputs, whatever is requested first. rustc's E0596 ("cannot borrow as mutable, as it is not declared as
    mutable") cannot arise from a stage parameter. -/
theorem stage_invocations_well_typed (resp : Binding) (calls : List (Bool × List Ty)) (bs bsF : List Binding)
    (ess : List (List Expr)) (h : resolveStage resp bs calls = some (ess, bsF)) :
    Le bs bsF ∧ stageTyped resp bsF calls ess :=
  resolveStage_typed resp calls bs bsF ess h

/-- one lookup: what is handed out is well typed against the bindings as the lookup leaves them -/
theorem lookup_well_typed {bs bs' : List Binding} {w : Ty} {e : Expr} (h : getExpr bs w = some (e, bs')) :
    Le bs bs' ∧ wellTyped bs' e w = true :=
  ⟨getExpr_le h, getExpr_typed h⟩

-- non-vacuity: `s_0: Budget` (type 0), a pre-processor wants `&mut Budget`, the handler wants `Budget`, a post-processor
-- wants the response (type 9) and `&Budget`... which is gone by then in real life; here: a second parameter `s_1: Cfg`
example : resolveStage ⟨99, .base 9, false⟩ [⟨0, .base 0, false⟩, ⟨1, .base 1, false⟩]
    [(false, [.ref true (.base 0)]), (false, [.base 0, .ref false (.base 1)]), (true, [.base 9, .ref false (.base 1)])] =
    some ([[.borrow true 0], [.name 0, .borrow false 1], [.name 99, .borrow false 1]],
      [⟨0, .base 0, true⟩, ⟨1, .base 1, false⟩]) := by decide +kernel
-- the variant a seeded change introduced (a lookup that no longer records `&mut` borrows) hands out `&mut s_0` while the
-- signature still says `s_0: Budget`: ill typed (E0596)
example : getExprPure [⟨0, .base 0, false⟩] (.ref true (.base 0)) = some (.borrow true 0, [⟨0, .base 0, false⟩]) ∧
    wellTyped [⟨0, .base 0, false⟩] (.borrow true 0) (.ref true (.base 0)) = false ∧
    (getExpr [⟨0, .base 0, false⟩] (.ref true (.base 0))).map (fun r => wellTyped r.2 r.1 (.ref true (.base 0))) = some true := by decide +kernel

end Pxv.Bind

