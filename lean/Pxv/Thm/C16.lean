import Pxv.Model.Server
import Pxv.Lemmas.Server
/-!
C16 — graceful shutdown drains in-flight requests and stops accepting new ones.

Every theorem is about `Pxv.Server.step` as it is and quantifies over ALL schedules: an arbitrary event list
replayed by `run` (= every interleaving of the acceptor thread, any number of worker threads, any number of
connections, timers firing whenever they like), every worker count `cfg.n` and every queue capacity `cfg.cap`.
`Reachable cfg s` = "`s` occurs in some execution from the initial state".

The claim for C16 is PARTIAL: the theorems cover pavex's own acceptor/worker protocol. That hyper answers
an in-flight request in full under `GracefulShutdown`, and that tokio's channels and `LocalSet` behave as
the guards of `step` say, is assumed (named in `Model/Server.lean`) and validated on every run by trace
conformance against the real server.
-/
namespace Pxv.Server

/-! Concrete executions; the `example`s replay them to show that the hypotheses of the theorems are satisfiable. -/

/-- One worker; connection 0 is mid-handler and connection 1 is still QUEUED at the worker when the
    Graceful command overtakes it; both are served before the shutdown resolves. -/
def demoGraceful : List Event :=
  [.accept 0, .dispatch 0 0 .ok, .wRecv 0 0, .cPoll 0, .hBegin 0 0, .accept 1, .dispatch 1 0 .ok,
   .call .graceful, .cmdSent, .accShutdown .graceful, .accSend 0, .accWaitStart,
   .hEnd 0 0, .wShutdown 0 .graceful, .wClose 0, .wDrain 0 1, .wDrainEnd 0, .cPoll 1, .hBegin 1 0,
   .wSignal 0, .hEnd 1 0, .cEnd 0 true, .cEnd 1 true, .wWaitEnd 0 .complete, .wNotify 0,
   .accWaitEnd .complete, .accNotify, .accExit, .returned, .handleDone]

/-- Two workers, Forced, with a handler in flight and a connection queued: resolves without them. -/
def demoForced : List Event :=
  [.accept 0, .dispatch 0 0 .ok, .wRecv 0 0, .cPoll 0, .hBegin 0 0, .accept 1, .dispatch 1 0 .ok,
   .call .forced, .accShutdown .forced, .accSend 0, .accSend 1, .accNotify, .accExit, .returned, .handleDone,
   .wShutdown 1 .forced, .wNotify 1, .wShutdown 0 .forced, .wNotify 0, .cEnd 0 false]

def cfg1 : Cfg := { n := 1 }
def cfg2 : Cfg := { n := 2 }

example : (run cfg1 init demoGraceful).isSome = true := by decide +kernel
example : (run cfg2 init demoForced).isSome = true := by decide +kernel

/-- `e` takes a connection in: accept / dispatch attempt / drop. -/
def Event.isIntake : Event → Bool
  | .accept _ => true
  | .dispatch _ _ _ => true
  | .dropConn _ => true
  | _ => false

/-- In a state where the acceptor is no longer listening no intake event is possible. -/
theorem no_intake_unless_listening (cfg : Cfg) (s : State) (h : s.acc.phase ≠ .listening) (c w : Nat) (r : DRes) :
    step cfg s (.accept c) = none ∧ step cfg s (.dispatch c w r) = none ∧ step cfg s (.dropConn c) = none := by
  simp [step, h]

theorem no_intake_run {cfg : Cfg} {t s : State} {es : List Event} (ht : t.acc.phase ≠ .listening)
    (hr : run cfg t es = some s) : ∀ e, e ∈ es → e.isIntake = false := by
  induction es generalizing t with
  | nil => nofun
  | cons e' es ih =>
    obtain ⟨t₁, g1, g2⟩ := run_cons hr
    intro e he
    cases he with
    | head =>
      cases e' with
      | accept | dispatch | dropConn => simp [step, ht] at g1
      | _ => rfl
    | tail _ hmem => exact ih (frozen_step ht (.of_step g1)).1 g2 e hmem

/-- **C16 (1) no_dispatch_after_shutdown.** In every execution, after the acceptor has taken the shutdown
    command (`accShutdown`), no connection is accepted, dispatched or dropped any more, and the set of
    connections ever handed to each worker is frozen. -/
theorem no_dispatch_after_shutdown (cfg : Cfg) (es₁ es₂ : List Event) (m : Mode) (s : State)
    (h : run cfg init (es₁ ++ .accShutdown m :: es₂) = some s) :
    (∀ e, e ∈ es₂ → e.isIntake = false) ∧
      ∃ s₁, run cfg init (es₁ ++ [.accShutdown m]) = some s₁ ∧ ∀ w, (s.w w).dispatched = (s₁.w w).dispatched := by
  obtain ⟨s₀, h0, h1⟩ := run_append h
  obtain ⟨s₁, h2, h3⟩ := run_cons h1
  have hp : s₁.acc.phase ≠ .listening := by
    cases Step.of_step h2 with
    | accShutdown => nofun
  exact ⟨no_intake_run hp h3, s₁, run_append_of h0 (run_cons_of h2 rfl), (frozen_run hp h3).2⟩

example : ∃ es₁ es₂ m s, run cfg1 init (es₁ ++ .accShutdown m :: es₂) = some s ∧ es₂ ≠ [] :=
  ⟨demoGraceful.take 9, demoGraceful.drop 10, .graceful,
    (run cfg1 init demoGraceful).get (by decide +kernel), by simp [demoGraceful], by decide +kernel⟩

/-- A worker's inbox is closed only after the acceptor has stopped listening; a closed inbox takes nothing. -/
theorem no_enqueue_after_close (cfg : Cfg) (s : State) (h : Reachable cfg s) (w : Nat)
    (hc : (s.w w).closed = true) :
    s.acc.phase ≠ .listening ∧ ∀ c, step cfg s (.dispatch c w .ok) = none := by
  refine ⟨fun hl => ?_, fun c => by simp [step, hc]⟩
  simp [(inv_reachable h).coupling.not_closed hl w] at hc

/-- While the acceptor listens no worker has been touched by the shutdown: `dispatch` never sees a closed
    inbox, i.e. the "worker crashed, restarting it" branch is dead code in every execution. -/
theorem dispatch_never_closed (cfg : Cfg) (s : State) (h : Reachable cfg s) (c w : Nat) :
    step cfg s (.dispatch c w .closed) = none := by
  simp only [step]
  split
  · next hg => simp [(inv_reachable h).coupling.not_closed hg.1 w]
  · rfl

/-- **C16 (2) queued_are_started.** In every reachable state, a worker that is past its drain loop has handed
    to hyper (`handle_connection`) exactly the connections that were ever dispatched to it, in dispatch
    order — in particular a connection that was still sitting in its inbox when the shutdown command
    overtook it. Its inbox is empty. -/
theorem queued_are_started (cfg : Cfg) (s : State) (h : Reachable cfg s) (w : Nat) (hp : pastDrain (s.w w)) :
    (s.w w).started = (s.w w).dispatched ∧ (s.w w).queue = [] := by
  have hi := inv_reachable h
  have hq := hi.drained w hp
  have hc := hi.conserv w
  simp [hq] at hc
  exact ⟨hc.symm, hq⟩

example : (run cfg1 init (demoGraceful.take 20)).map
    (fun s => decide ((s.w 0).phase = .waiting ∧ (s.w 0).started = [0, 1])) = some true := by decide +kernel

/-- FIFO conservation at every moment: dispatched = started ++ still queued. -/
theorem dispatched_eq_started_append_queue (cfg : Cfg) (s : State) (h : Reachable cfg s) (w : Nat) :
    (s.w w).dispatched = (s.w w).started ++ (s.w w).queue :=
  (inv_reachable h).conserv w

/-- Nothing is started after the signal: what a signalled worker has started, it started before. -/
theorem no_start_after_signal (cfg : Cfg) (s s' : State) (h : Reachable cfg s) (w : Nat) (es : List Event)
    (hsig : (s.w w).signalled = true) (hr : run cfg s es = some s') :
    (s'.w w).started = (s.w w).started := by
  have key := run_invariant
    (P := fun t => Inv cfg t ∧ (t.w w).signalled = true ∧ (t.w w).started = (s.w w).started)
    (fun ⟨hi, hs, he⟩ h1 =>
      have ⟨g1, g2⟩ := started_frozen_step hi.wflags hi.coupling w hs (.of_step h1)
      ⟨inv_step hi h1, g1, g2.trans he⟩)
    ⟨inv_reachable h, hsig, rfl⟩ hr
  exact key.2.2

/-- **C16 (2') started connections are polled before the signal** (needs the yield of the `fix:` commit).
    No connection is ever first polled after `GracefulShutdown`'s signal — the situation in which hyper-util
    drops it without reading the request waiting on its socket; and when a worker sends the signal every
    connection it has started has already been polled. -/
theorem started_polled_before_signal (cfg : Cfg) (hy : cfg.yieldPolicy = .always) (s : State)
    (h : Reachable cfg s) :
    (∀ c, (s.c c).cancelled = false ∧ (s.c c).phase ≠ .doomed) ∧
      ∀ w, (s.w w).signalled = true → ∀ c, c ∈ (s.w w).started → (s.c c).phase ≠ .spawned := by
  have hn := nocancel_reachable hy h
  have hi := inv_reachable h
  refine ⟨fun c => (hn c).2, ?_⟩
  intro w hsig c hc hsp
  obtain ⟨hw, _⟩ := hi.links.started w c hc
  have := ((hn c).1 hsp).2
  rw [hw] at this
  simp [this] at hsig

example : cfg1.yieldPolicy = .always ∧ (run cfg1 init (demoGraceful.take 20)).map
    (fun s => (s.w 0).signalled) = some true := by decide +kernel

/-- **Finding (the code before the `fix:` commit).** Without the yield the faithful model violates the
    property: connection 1 is queued at the worker BEFORE the shutdown call, the worker drains it, signals,
    and only then is the connection polled for the first time: it is cancelled, its handler never runs,
    although the shutdown then resolves gracefully with no timeout. (Replayed on the real code: corpus/C16.) -/
def witnessNoYield : List Event :=
  [.accept 0, .dispatch 0 0 .ok, .wRecv 0 0, .cPoll 0, .hBegin 0 0, .accept 1, .dispatch 1 0 .ok,
   .call .graceful, .cmdSent, .accShutdown .graceful, .accSend 0, .accWaitStart,
   .hEnd 0 0, .wShutdown 0 .graceful, .wClose 0, .wDrain 0 1, .wDrainEnd 0, .wSignal 0, .cPoll 1,
   .cEnd 1 true, .cEnd 0 true, .wWaitEnd 0 .complete, .wNotify 0, .accWaitEnd .complete, .accNotify]

theorem queued_connection_cancelled_without_yield :
    (run { n := 1, yieldPolicy := .never } init witnessNoYield).map
      (fun s => decide ((s.c 1).cancelled = true ∧ (s.c 1).begun = 0 ∧ 1 ∈ (s.w 0).dispatched ∧
        s.acc.resolved = true ∧ s.acc.timedOut = false ∧ (s.w 0).timedOut = false)) = some true := by
  decide +kernel

/-- ... and with the yield that very schedule is impossible. -/
theorem witness_impossible_with_yield : run { n := 1 } init witnessNoYield = none := by
  decide +kernel

/-- **Refuted variant: yield only if the drain loop found something** (`YieldPolicy.ifDrained`, "no need to
    go through the scheduler if the queue was empty"). The queued case above is then covered ... -/
theorem conditional_yield_covers_queued :
    run { n := 1, yieldPolicy := .ifDrained } init witnessNoYield = none := by
  decide +kernel

/-- ... but not a connection that the REGULAR loop took off the queue and spawned (`wRecv`) and that has
    not been polled yet when the Graceful command reaches the worker with an EMPTY queue: nothing is
    drained, the worker does not yield, signals, and the connection — dispatched, and its request on the
    socket, BEFORE the shutdown call — is first polled after the signal: cancelled unread, handler never
    run, while the shutdown resolves gracefully with no timeout anywhere. (Reached deterministically on
    the real code by parking the worker at the `after_spawn` / `after_recv` failpoint: corpus/C16.) -/
def witnessSpawnedUnpolled : List Event :=
  [.accept 0, .dispatch 0 0 .ok, .wRecv 0 0,
   .call .graceful, .cmdSent, .accShutdown .graceful, .accSend 0, .accWaitStart,
   .wShutdown 0 .graceful, .wClose 0, .wDrainEnd 0, .wSignal 0, .cPoll 0,
   .cEnd 0 true, .wWaitEnd 0 .complete, .wNotify 0, .accWaitEnd .complete, .accNotify]

theorem spawned_connection_cancelled_with_conditional_yield :
    (run { n := 1, yieldPolicy := .ifDrained } init witnessSpawnedUnpolled).map
      (fun s => decide ((s.c 0).cancelled = true ∧ (s.c 0).begun = 0 ∧ 0 ∈ (s.w 0).dispatched ∧
        (s.w 0).drainedAny = false ∧
        s.acc.resolved = true ∧ s.acc.timedOut = false ∧ (s.w 0).timedOut = false)) = some true := by
  decide +kernel

/-- The same schedule also breaks the code without any yield, and is impossible with the unconditional one:
    there the signal has to wait for `cPoll 0`. -/
theorem witness_spawned_without_yield :
    (run { n := 1, yieldPolicy := .never } init witnessSpawnedUnpolled).map
      (fun s => decide ((s.c 0).cancelled = true ∧ (s.c 0).begun = 0)) = some true := by
  decide +kernel

theorem witness_spawned_impossible_with_yield : run { n := 1 } init witnessSpawnedUnpolled = none := by
  decide +kernel

/-- Under EVERY policy: a worker that did yield (`cfg.yields`) when it signalled left no started connection
    unpolled at that moment — the guard of `wSignal` is exactly the difference between the policies. -/
theorem signal_after_yield_sees_no_unpolled (cfg : Cfg) (s s' : State) (w : Nat)
    (hs : step cfg s (.wSignal w) = some s') (hy : cfg.yields (s.w w) = true) :
    ∀ c, c ∈ (s.w w).started → (s.c c).phase ≠ .spawned := by
  cases Step.of_step hs with
  | wSignal _ _ hy' => exact fun c hc => by simpa using (allPhase_iff ..).1 (hy' hy) c hc

example : ∃ s s', step cfg1 s (.wSignal 0) = some s' ∧ cfg1.yields (s.w 0) = true ∧ (s.w 0).started = [0, 1] :=
  ⟨(run cfg1 init (demoGraceful.take 19)).get (by decide +kernel), _, rfl, by decide +kernel,
    by decide +kernel⟩

/-- **C16 (3) graceful_resolution.** If `ServerHandle::shutdown(Graceful)` has resolved (the caller has been
    notified), then every worker had notified the acceptor or the acceptor's timeout fired; and a worker
    that notified after a Graceful command had seen every connection it started finish, or its own
    timeout fired. `returned` events only ever happen after the notification. -/
theorem graceful_resolution (cfg : Cfg) (s : State) (h : Reachable cfg s) :
    (0 < s.acc.returned → s.acc.resolved = true) ∧
    (s.acc.resolved = true → s.acc.mode = some .graceful →
        (∀ w, w < cfg.n → (s.w w).notified = true) ∨ s.acc.timedOut = true) ∧
    (∀ w, (s.w w).notified = true → (s.w w).forced = false →
        (∀ c, c ∈ (s.w w).started → (s.c c).phase = .ended) ∨ (s.w w).timedOut = true) := by
  have hi := inv_reachable h
  refine ⟨hi.aflags.returned, fun hres => ?_, fun w hn => ?_⟩
  · exact hi.resol (.inr (hi.aflags.resolved_iff.1 hres))
  · exact hi.wdone w (.inr ((hi.wflags.notified_iff w).1 hn))

example : (run cfg1 init demoGraceful).map
    (fun s => decide (0 < s.acc.returned ∧ s.acc.mode = some .graceful ∧ (s.w 0).notified = true ∧
      (s.w 0).forced = false ∧ s.acc.timedOut = false)) = some true := by decide +kernel

/-- **C16 (2)+(3) drain is complete.** Graceful shutdown resolved, no timeout fired anywhere: then EVERY
    connection that was ever dispatched to any worker — whether it was queued, spawned, mid-handler or idle
    when the command arrived — was started, was polled before the signal (never cancelled), and its task
    ran until it was gone. (That hyper answers the request of such a connection in full is the named
    assumption.) -/
theorem graceful_drain_complete (cfg : Cfg) (hy : cfg.yieldPolicy = .always) (s : State)
    (h : Reachable cfg s) (hres : s.acc.resolved = true) (hm : s.acc.mode = some .graceful)
    (hto : s.acc.timedOut = false) (w : Nat) (hw : w < cfg.n) (hwto : (s.w w).timedOut = false) :
    ∀ c, c ∈ (s.w w).dispatched → c ∈ (s.w w).started ∧ (s.c c).phase = .ended ∧ (s.c c).cancelled = false := by
  have hi := inv_reachable h
  obtain ⟨_, h3a, h3b⟩ := graceful_resolution cfg s h
  have hn : (s.w w).notified = true := by
    rcases h3a hres hm with h' | h'
    · exact h' w hw
    · simp [hto] at h'
  have hex := (hi.wflags.notified_iff w).1 hn
  have hnf : (s.w w).forced = false := by simpa [hm] using (hi.modeagree w).2 (by simp [hex])
  have hq := queued_are_started cfg s h w (Or.inr (Or.inr ⟨Or.inr hex, hnf⟩))
  intro c hc
  rw [← hq.1] at hc
  refine ⟨hc, ?_, ((started_polled_before_signal cfg hy s h).1 c).1⟩
  rcases h3b w hn hnf with h' | h'
  · exact h' c hc
  · simp [hwto] at h'

example : (run cfg1 init demoGraceful).map
    (fun s => decide (s.acc.resolved = true ∧ s.acc.mode = some .graceful ∧ s.acc.timedOut = false ∧
      (s.w 0).timedOut = false ∧ (s.w 0).dispatched = [0, 1] ∧ (s.c 1).served = 1)) = some true := by decide +kernel

/-- The acceptor's own remaining steps of a Forced shutdown from command `i` on. -/
def forcedTail (cfg : Cfg) (i : Nat) : List Event :=
  (List.range' i (cfg.n - i)).map .accSend ++ [.accNotify]

/-- **C16 (4) forced_prompt.** Once the acceptor has taken a `Forced` command, whatever the workers and
    connections are doing (ANY state `s` with that acceptor phase: handlers in flight, workers blocked,
    connections queued), the acceptor's own next `n - i + 1` steps — one `send` per remaining worker and the
    notification — are all enabled, involve no wait and no worker or connection event, and resolve the
    shutdown. -/
theorem forced_prompt (cfg : Cfg) (s : State) (i : Nat) (hp : s.acc.phase = .sending .forced i) (hi : i ≤ cfg.n) :
    ∃ s', run cfg s (forcedTail cfg i) = some s' ∧ s'.acc.resolved = true ∧
      (∀ c, s'.c c = s.c c) := by
  obtain ⟨s₁, h1, hp1, hc1⟩ := sends_run cfg .forced (cfg.n - i) s i hp (by omega)
  exact ⟨_, run_append_of h1 ((Step.accNotify (.inr hp1)).run rfl), rfl, congrFun hc1⟩

example : (run cfg2 init (demoForced.take 9)).map (fun s => decide (s.acc.phase = .sending .forced 0 ∧
    (s.c 0).phase = .inflight ∧ (s.c 1).phase = .queued)) = some true := by decide +kernel

/-- In Forced mode neither the acceptor nor any worker ever enters a wait. -/
theorem forced_never_waits (cfg : Cfg) (s : State) (h : Reachable cfg s) (hm : s.acc.mode = some .forced) :
    s.acc.phase ≠ .waiting ∧ s.acc.phase ≠ .finishing ∧ ∀ w, (s.w w).phase ≠ .waiting ∧ (s.w w).phase ≠ .draining := by
  have hi := inv_reachable h
  refine ⟨fun hp => ?_, fun hp => ?_, fun w => ?_⟩
  · -- an acceptor that waits took a Graceful command
    have := hi.aflags.waited (.inl hp)
    simp [hm] at this
  · have := hi.aflags.waited (.inr hp)
    simp [hm] at this
  · -- a worker that has left `running` under a Forced command is marked `forced`: it is finishing
    -- or has exited
    have hf (hr : (s.w w).phase ≠ .running) : (s.w w).phase = .finishing ∨ (s.w w).phase = .exited :=
      hi.wflags.forced (((hi.modeagree w).2 hr).1 hm)
    constructor
    · intro hp
      simpa [hp] using hf (by simp [hp])
    · intro hp
      simpa [hp] using hf (by simp [hp])

/-- **C16 (5) handle_future_resolves.**
    Safety: the handle future resolves only after the acceptor has exited, which is after the caller of
    `shutdown` was notified. Progress ("no blocking state"): in EVERY reachable state in which the acceptor
    has taken a shutdown command — Graceful or Forced — there is a continuation consisting only of the
    acceptor's own steps and (Graceful) its timer, at most `n + 4` of them, none of which needs a worker or
    a connection to do anything, after which the acceptor has exited, so that both `shutdown(..)` and
    `handle.await` can resolve. Under weak fairness of the acceptor thread and its timer this is: both
    futures resolve in both modes. -/
theorem handle_future_resolves (cfg : Cfg) (s : State) (h : Reachable cfg s) :
    (s.acc.handleDone = true → s.acc.phase = .exited ∧ s.acc.resolved = true) ∧
    (s.acc.phase ≠ .listening →
      ∃ es s', run cfg s es = some s' ∧ es.length ≤ cfg.n + 4 ∧
        (∃ s'', run cfg s' [.returned, .handleDone] = some s'' ∧ s''.acc.handleDone = true ∧ 0 < s''.acc.returned)) := by
  have hi := inv_reachable h
  refine ⟨fun hd => ?_, fun hp => ?_⟩
  · have hex := hi.aflags.handleDone hd
    exact ⟨hex, hi.aflags.resolved_iff.2 (.inr hex)⟩
  -- at `exited` the invariant says `resolved`, which enables `returned`
  obtain ⟨es, s', hr, hl, hex⟩ := acceptor_exits hi.aflags hp
  have hres := (inv_run hi hr).aflags.resolved_iff.2 (.inr hex)
  have hrun : run cfg s' [.returned, .handleDone] = some _ :=
    (Step.returned hres).run <| Step.run (.handleDone hex) rfl
  exact ⟨es, s', hr, hl, _, hrun, rfl, Nat.succ_pos _⟩

/-- **C16 (5') the command is always taken.** In every reachable state in which the acceptor still listens
    and a `shutdown(m)` call is pending, the acceptor's dispatch loop for the connection in hand (if any)
    terminates after at most `n` non-blocking `try_send`s — handing the connection over or dropping it — and the
    command is taken: no state in which the acceptor listens can block a pending shutdown. Together with
    `handle_future_resolves` the acceptor reaches `exited` by at most `2 n + 6` of its own steps. -/
theorem shutdown_command_taken (cfg : Cfg) (hn : 0 < cfg.n) (s : State) (h : Reachable cfg s)
    (hp : s.acc.phase = .listening) (m : Mode) (hm : m ∈ s.acc.calls) :
    ∃ es s', run cfg s es = some s' ∧ s'.acc.phase = .sending m 0 ∧ es.length ≤ cfg.n + 2 := by
  have hi := inv_reachable h
  exact TakeReady.taken
    { listening := hp
      pending := hm
      next_lt := hi.ranges.1 hn
      tries_le := hi.ranges.2
      inboxes_open := hi.coupling.not_closed hp }

example : (run cfg1 init (demoGraceful.take 8)).map (fun s => decide (s.acc.phase = .listening ∧
    Mode.graceful ∈ s.acc.calls ∧ (s.c 1).phase = .queued)) = some true := by decide +kernel

example : (run cfg1 init (demoGraceful.take 12)).map (fun s => decide (s.acc.phase = .waiting ∧
    (s.c 0).phase = .inflight ∧ (s.c 1).phase = .queued ∧ (s.w 0).phase = .running)) = some true := by decide +kernel

/-- **C16 (6) worker_can_always_finish** ("no blocking state" on the worker side). In every reachable state,
    a worker that has a shutdown command in its inbox, or is anywhere past taking one, has a continuation made
    only of its own steps, first polls of connection tasks it has spawned, and (Graceful) its own timer, after
    which it has notified the acceptor and exited: the drain loop always terminates (nothing can be enqueued
    behind a closed inbox), the yield lets every spawned task be polled, and the wait is bounded by the
    timeout. Under weak fairness of the worker thread this is: every worker eventually notifies. -/
theorem worker_can_always_finish (cfg : Cfg) (s : State) (h : Reachable cfg s) (w : Nat) (hw : w < cfg.n)
    (hp : (s.w w).phase ≠ .running ∨ (s.w w).cmds ≠ []) :
    ∃ es s', run cfg s es = some s' ∧ (s'.w w).phase = .exited ∧ (s'.w w).notified = true :=
  worker_exits (inv_reachable h) hw hp

example : (run cfg1 init (demoGraceful.take 13)).map (fun s => decide ((s.w 0).phase = .running ∧
    (s.w 0).cmds = [.graceful] ∧ (s.w 0).queue = [1])) = some true := by decide +kernel

end Pxv.Server
