import Pxv.Lemmas.Store
/-!
C13 — session stores behave like a map with expiry, under concurrency too.

Everything is for every state type `σ`, every history (list of `(delay, call)`; ids, states, TTLs,
delays and traversal orders arbitrary) and every schedule. `runObs g step` are the answers of a
backend read at spec level, `specObs p g` the answers of `MapWithExpiry` (`specStep`) on the same
history with its clock at resolution `g`.
-/
namespace Pxv.Store

variable {σ : Type}

/-- **C13 (1), memory, general form**: from any table whose live records are those of an abstract
    map, every history gets exactly the answers of the specification (strict policy: `create` on a
    live id is a duplicate-id error). -/
theorem mem_refines_from (h : List (Nat × Op σ)) (now : Nat) (t : Tbl σ) (a : AMap σ)
    (ag : Agree now t a) :
    runObs 1 memStep now t h = specObs (Policy.strict false) 1 now a h :=
  refines_of_sim 1 memStep (Policy.strict false) (bad := fun _ _ _ => false) (Inv := Agree)
    (mono := fun _ _ _ _ => agree_mono)
    (sim := fun now op _ _ inv _ => (Nat.div_one now).symm ▸ mem_sim inv op)
    h now t a ag (anyStep_false_of_never _ _ _ _)

/-- **C13 (1), memory**: the in-memory store, started empty, is observationally the map with expiry
    for every history. -/
theorem mem_refines (h : List (Nat × Op σ)) :
    runObs 1 memStep 0 ([] : Tbl σ) h = specObs (Policy.strict false) 1 0 AMap.empty h :=
  mem_refines_from h 0 [] AMap.empty (agree_empty 0)

/-- The full-strength statement for SQLite (strict policy). It is **false**: see below. -/
def sqlite_refines_statement : Prop :=
  ∀ (σ : Type) (h : List (Nat × Op σ)),
    runObs 1000 sqlStep 0 ([] : Tbl σ) h = specObs (Policy.strict true) 1000 0 AMap.empty h

/-- **[finding 1, known]** `create` on a live id answers `Ok` and writes nothing. -/
theorem sqlite_create_live_witness :
    runObs 1000 sqlStep 0 ([] : Tbl Nat) [(0, .create 1 7 5000), (0, .create 1 8 5000), (0, .load 1)]
      = [.ok, .ok, .loaded (some (7, 5))]
    ∧ specObs (Policy.strict true) 1000 0 AMap.empty [(0, .create 1 7 5000), (0, .create 1 8 5000), (0, .load 1)]
      = [.ok, .dup, .loaded (some (7, 5))] := by
  decide +kernel

/-- **[finding 2, known]** `change_id` onto an id whose expired row was not purged yet answers
    `DuplicateId`; the map with expiry renames. (Id 1 is created already expired: TTL 0.) -/
theorem sqlite_change_id_squatted_witness :
    runObs 1000 sqlStep 0 ([] : Tbl Nat)
        [(0, .create 1 7 0), (0, .create 2 8 5000), (0, .load 1), (0, .changeId 2 1), (0, .load 1)]
      = [.ok, .ok, .loaded none, .dup, .loaded none]
    ∧ specObs ⟨true, true⟩ 1000 0 AMap.empty
        [(0, .create 1 7 0), (0, .create 2 8 5000), (0, .load 1), (0, .changeId 2 1), (0, .load 1)]
      = [.ok, .ok, .loaded none, .ok, .loaded (some (8, 5))] := by
  decide +kernel

theorem sqlite_refines_statement_false : ¬ sqlite_refines_statement := by
  intro h
  have h1 := h Nat [(0, .create 1 7 5000), (0, .create 1 8 5000), (0, .load 1)]
  rw [sqlite_create_live_witness.1, sqlite_create_live_witness.2] at h1
  exact absurd h1 (by decide)

/-- General form of the two SQLite theorems: from agreeing states, for a policy that lets
    `change_id(i,i)` succeed, a history in which no call is a recorded finding (finding 1 only
    matters under the strict policy) gets exactly the specification's answers. -/
theorem sqlite_refines_from (p : Policy) (hp : p.renameSelfOk = true) (h : List (Nat × Op σ))
    (now : Nat) (t : Tbl σ) (a : AMap σ) (ag : Agree (now / 1000) t a)
    (hc : p.createOnLiveOk = true ∨ anyStep sqlStep sqlCreateOnLive now t h = false)
    (hs : anyStep sqlStep sqlSquattedRename now t h = false) :
    runObs 1000 sqlStep now t h = specObs p 1000 now a h := by
  have mono (n n' : Nat) (s : Tbl σ) (a : AMap σ) (hle : n ≤ n') :
      Agree (n / 1000) s a → Agree (n' / 1000) s a :=
    agree_mono (Nat.div_le_div_right hle)
  rcases hc with hc | hc
  · -- the policy absorbs finding 1: only finding 2 has to be kept out
    exact refines_of_sim 1000 sqlStep p (bad := sqlSquattedRename)
      (Inv := fun n s a => Agree (n / 1000) s a) (mono := mono)
      (sim := fun _ op _ _ inv hb => sql_sim p hp inv op (Or.inl hc) hb) h now t a ag hs
  · refine refines_of_sim 1000 sqlStep p
      (bad := fun n o s => sqlCreateOnLive n o s || sqlSquattedRename n o s)
      (Inv := fun n s a => Agree (n / 1000) s a) (mono := mono)
      (sim := fun _ op _ _ inv hb => ?_) h now t a ag (by rw [anyStep_or, hc, hs]; rfl)
    rw [Bool.or_eq_false_iff] at hb
    exact sql_sim p hp inv op (Or.inr hb.1) hb.2

/-- **C13 (1), SQLite, proved part**: against the specification weakened at exactly one point —
    `create` on a live id may answer `Ok`, still without any effect (finding 1) — the SQLite store
    refines the map with expiry (at second resolution) for every history that contains no rename
    onto a squatted id (finding 2). -/
theorem sqlite_refines_partial (h : List (Nat × Op σ))
    (hs : anyStep sqlStep sqlSquattedRename 0 ([] : Tbl σ) h = false) :
    runObs 1000 sqlStep 0 ([] : Tbl σ) h = specObs ⟨true, true⟩ 1000 0 AMap.empty h :=
  sqlite_refines_from ⟨true, true⟩ rfl h 0 [] AMap.empty (agree_empty _) (Or.inl rfl) hs

/-- **C13 (1), SQLite, conditional full strength**: on every history in which neither recorded
    finding occurs, the SQLite store meets the *strict* specification. So the two findings are the
    only ways in which the (modelled) SQLite store is not a map with expiry. -/
theorem sqlite_refines_of_clean (h : List (Nat × Op σ))
    (hc : anyStep sqlStep sqlCreateOnLive 0 ([] : Tbl σ) h = false)
    (hs : anyStep sqlStep sqlSquattedRename 0 ([] : Tbl σ) h = false) :
    runObs 1000 sqlStep 0 ([] : Tbl σ) h = specObs (Policy.strict true) 1000 0 AMap.empty h :=
  sqlite_refines_from (Policy.strict true) rfl h 0 [] AMap.empty (agree_empty _) (Or.inr hc) hs

/-- **C13 (2), linearizability of atomic calls**: for every step function, every set of task
    programs and every schedule, the answers the tasks receive are exactly those of the
    *sequential* history `linearise` — the calls in the order in which the schedule performs them.
    (Atomicity of a call — mutex first and nothing else awaited / one SQL statement — is the
    assumption that makes `runConc` the right semantics; the check re-extracts it from the source.) -/
theorem atomic_linearizable {S R : Type} (step : Nat → Op σ → S → S × R) (sched : List Tick) :
    ∀ (now carry : Nat) (s : S) (progs : List (List (Op σ))),
      (runConc step (now + carry) s progs sched).map (·.2)
        = run step now s ((linearise carry progs sched).map (·.2))
      ∧ (runConc step (now + carry) s progs sched).map (·.1) = (linearise carry progs sched).map (·.1) := by
  intro now carry s progs
  fun_induction linearise carry progs sched generalizing now s with
  | case1 => exact ⟨rfl, rfl⟩
  | case2 carry progs d k sched op rest hk ih =>
    have := ih (now + carry + d) (step (now + carry + d) op s).1
    simp only [runConc, hk, List.map_cons, run, Nat.add_zero, Nat.add_assoc] at this ⊢
    exact ⟨by rw [this.1], by rw [this.2]⟩
  | case3 carry progs d k sched hk ih =>
    have := ih now s
    simp only [runConc, Nat.add_assoc] at this ⊢
    exact this

/-- The linearisation respects every task's program order: the calls of task `k` occur in it in
    program order, as an initial segment of `progs[k]`. -/
theorem linearise_program_order (k : Nat) (sched : List Tick) :
    ∀ (carry : Nat) (progs : List (List (Op σ))),
      (((linearise carry progs sched).filter (fun e => e.1 == k)).map (·.2.2)) <+: (progs[k]?).getD [] := by
  intro carry progs
  fun_induction linearise carry progs sched with
  | case1 => simp
  | case2 carry progs d k' sched op rest hk ih =>
    by_cases hkk : k' = k
    · subst hkk
      rw [List.getElem?_set_self (List.getElem?_eq_some_iff.mp hk).1] at ih
      simpa [hk] using ih
    · rw [List.getElem?_set_ne hkk] at ih
      rwa [List.filter_cons_of_neg (by simpa using hkk)]
  | case3 _ _ _ _ _ _ ih => exact ih

/-- **C13 (2), memory, concurrent callers**: whatever the interleaving, the tasks get the answers of
    the sequential history `lin` (the linearisation; it respects each task's program order,
    `linearise_program_order`), and on `lin` the store answers as the map with expiry (`runObs` is
    `run` with each answer read at spec level). -/
theorem mem_concurrent (progs : List (List (Op σ))) (sched : List Tick) :
    let lin := (linearise 0 progs sched).map (·.2)
    (runConc memStep 0 ([] : Tbl σ) progs sched).map (·.2) = run memStep 0 [] lin
    ∧ runObs 1 memStep 0 ([] : Tbl σ) lin = specObs (Policy.strict false) 1 0 AMap.empty lin :=
  ⟨(atomic_linearizable memStep sched 0 0 [] progs).1, mem_refines _⟩

/-- **C13 (2), SQLite, concurrent callers** (same, modulo the two recorded findings). -/
theorem sqlite_concurrent (progs : List (List (Op σ))) (sched : List Tick)
    (hs : anyStep sqlStep sqlSquattedRename 0 ([] : Tbl σ) ((linearise 0 progs sched).map (·.2)) = false) :
    let lin := (linearise 0 progs sched).map (·.2)
    (runConc sqlStep 0 ([] : Tbl σ) progs sched).map (·.2) = run sqlStep 0 [] lin
    ∧ runObs 1000 sqlStep 0 ([] : Tbl σ) lin = specObs ⟨true, true⟩ 1000 0 AMap.empty lin :=
  ⟨(atomic_linearizable sqlStep sched 0 0 [] progs).1, sqlite_refines_partial _ hs⟩

/-- The hypothesis `WF t` of C13 (3) holds of every table a history can produce. -/
theorem mem_reachable_wf (h : List (Nat × Op σ)) : ∀ (now : Nat) (t : Tbl σ), WF t →
    WF (runState memStep now t h).2 :=
  runState_inv memStep WF (fun _ _ _ wf => memStep_wf wf _ _) h

theorem sqlite_reachable_wf (h : List (Nat × Op σ)) : ∀ (now : Nat) (t : Tbl σ), WF t →
    WF (runState sqlStep now t h).2 :=
  runState_inv sqlStep WF (fun _ _ _ wf => sqlStep_wf wf _ _) h

/-- **C13 (3), memory**: whatever the traversal order `ord` and the batch size, `delete_expired`
    physically removes exactly the ids it lists: all of them held a record with `deadline ≤ now`
    (so no live record is ever removed), nothing else changes, the reported count is the number of
    records that disappeared, it respects the batch size, and without a batch size no expired
    record is left behind. -/
theorem mem_deleteExpired_exact (now : Nat) (batch : Option Nat) (ord : List Nat) (t : Tbl σ) (wf : WF t) :
    ∃ ids, memStep now (.deleteExpired batch ord) t = (eraseAll t ids, .deleted ids.length ids)
      ∧ (∀ i ∈ ids, ∃ r, get t i = some r ∧ r.deadline ≤ now)
      ∧ (∀ j, j ∉ ids → get (eraseAll t ids) j = get t j)
      ∧ (∀ j, j ∈ ids → get (eraseAll t ids) j = none)
      ∧ (eraseAll t ids).length + ids.length = t.length
      ∧ (∀ b, batch = some b → ids.length ≤ b)
      ∧ (batch = none → ∀ j r, get (eraseAll t ids) j = some r → now < r.deadline) := by
  obtain ⟨hexp, hkept, hgone, hlen, hbatch, hall⟩ := sweep_exact (memStale now) wf batch ord
  refine ⟨_, rfl, fun i hi => ?_, hkept, hgone, hlen, hbatch, fun hb j r hg => ?_⟩
  · exact (hexp i hi).imp fun r h => ⟨h.1, of_decide_eq_true h.2⟩
  · simpa [memStale] using hall hb j r hg

/-- **C13 (3), SQLite**: same for the two `DELETE … WHERE deadline < unixepoch()` statements
    (`nowS = now / 1000`); rows with `deadline = nowS` are not live either but are left for later. -/
theorem sqlite_deleteExpired_exact (now : Nat) (batch : Option Nat) (ord : List Nat) (t : Tbl σ) (wf : WF t) :
    ∃ ids, sqlStep now (.deleteExpired batch ord) t = (eraseAll t ids, .deleted ids.length ids)
      ∧ (∀ i ∈ ids, ∃ r, get t i = some r ∧ r.deadline < now / 1000)
      ∧ (∀ j, j ∉ ids → get (eraseAll t ids) j = get t j)
      ∧ (∀ j, j ∈ ids → get (eraseAll t ids) j = none)
      ∧ (eraseAll t ids).length + ids.length = t.length
      ∧ (∀ b, batch = some b → ids.length ≤ b)
      ∧ (batch = none → ∀ j r, get (eraseAll t ids) j = some r → now / 1000 ≤ r.deadline) := by
  obtain ⟨hexp, hkept, hgone, hlen, hbatch, hall⟩ :=
    sweep_exact (fun r => decide (r.deadline < now / 1000)) wf batch ord
  refine ⟨_, rfl, fun i hi => ?_, hkept, hgone, hlen, hbatch, fun hb j r hg => ?_⟩
  · exact (hexp i hi).imp fun r h => ⟨h.1, of_decide_eq_true h.2⟩
  · simpa using hall hb j r hg

/-- `load` returns the live record — never an expired or absent one. -/
theorem spec_load (p : Policy) (now i : Nat) (a : AMap σ) :
    specStep p now (.load i) a = (a, .loaded ((a.liveAt now i).map (fun r => (r.state, r.deadline))))
    ∧ ∀ st dl, (specStep p now (.load i) a).2 = .loaded (some (st, dl)) → now < dl ∧ a i = some ⟨st, dl⟩ := by
  have e : specStep p now (.load i) a
      = (a, .loaded ((a.liveAt now i).map (fun r => (r.state, r.deadline)))) := by
    simp only [specStep]
    cases a.liveAt now i <;> rfl
  refine ⟨e, fun st dl h => ?_⟩
  rw [e] at h
  cases hl : a.liveAt now i with
  | none =>
    rw [hl] at h
    cases h
  | some r =>
    rw [hl] at h
    cases h
    exact (liveOpt_some hl).symm

/-- `create` never overwrites a live record (strict policy: it fails with duplicate-id). -/
theorem spec_create_live (b : Bool) (now i dl : Nat) (st : σ) (a : AMap σ) (r : Rec σ)
    (h : a.liveAt now i = some r) : specStep (Policy.strict b) now (.create i st dl) a = (a, .dup) := by
  simp [specStep, h, Policy.strict]

/-- `create` on an absent or expired id succeeds and writes the record. -/
theorem spec_create_free (p : Policy) (now i dl : Nat) (st : σ) (a : AMap σ) (h : a.liveAt now i = none) :
    specStep p now (.create i st dl) a = (a.set i (some ⟨st, dl⟩), .ok) := by
  simp [specStep, h]

/-- `update`, `update_ttl`, `delete`, `change_id` answer unknown-id on absent or expired records,
    whatever else holds, and change nothing. -/
theorem spec_unknown (p : Policy) (now i : Nat) (a : AMap σ) (h : a.liveAt now i = none) :
    (∀ st dl, specStep p now (.update i st dl) a = (a, .unknown))
    ∧ (∀ dl, specStep p now (.updateTtl i dl) a = (a, .unknown))
    ∧ specStep p now (.delete i) a = (a, .unknown)
    ∧ (∀ n, specStep p now (.changeId i n) a = (a, .unknown)) := by
  simp [specStep, h]

/-- A step of the specification leaves the map alone, or answers `ok` and writes only ids the call
    mentions. -/
theorem spec_effect (p : Policy) (now : Nat) (op : SOp σ) (a : AMap σ) :
    (specStep p now op a).1 = a ∨
      ((specStep p now op a).2 = .ok ∧
        ∀ j, op.mentions j = false → (specStep p now op a).1 j = a j) := by
  cases op
  case create i _ _ =>
    simp only [specStep, SOp.mentions]
    cases a.liveAt now i with
    | some _ => exact .inl rfl
    | none => exact .inr ⟨rfl, fun _ => set_of_ne a _⟩
  case update i _ _ | updateTtl i _ | delete i =>
    simp only [specStep, SOp.mentions]
    cases a.liveAt now i with
    | none => exact .inl rfl
    | some _ => exact .inr ⟨rfl, fun _ => set_of_ne a _⟩
  case load i =>
    simp only [specStep]
    cases a.liveAt now i <;> exact .inl rfl
  case changeId o n =>
    simp only [specStep, SOp.mentions]
    cases a.liveAt now o with
    | none => exact .inl rfl
    | some r =>
      dsimp only
      split
      · exact .inl rfl
      · cases a.liveAt now n with
        | some _ => exact .inl rfl
        | none =>
          refine .inr ⟨rfl, fun j hj => ?_⟩
          obtain ⟨ho, hn⟩ := Bool.or_eq_false_iff.mp hj
          exact (set_of_ne _ _ hn).trans (set_of_ne _ _ ho)
  case deleteExpired => exact .inl rfl

theorem spec_unchanged_of_ne_ok (p : Policy) (now : Nat) (op : SOp σ) (a : AMap σ)
    (h : (specStep p now op a).2 ≠ .ok) : (specStep p now op a).1 = a :=
  (spec_effect p now op a).resolve_right fun h' => h h'.1

/-- A call that fails has no effect at all. -/
theorem spec_failed_no_effect (p : Policy) (now : Nat) (op : SOp σ) (a : AMap σ)
    (h : (specStep p now op a).2 = .dup ∨ (specStep p now op a).2 = .unknown) :
    (specStep p now op a).1 = a :=
  spec_unchanged_of_ne_ok p now op a fun hok => by
    rw [hok] at h
    rcases h with h | h <;> cases h

/-- `change_id` of a live record onto a free id is one step: afterwards the record (state and
    deadline) is under the new id, the old id is gone, every other id is untouched. -/
theorem spec_changeId_atomic (p : Policy) (now o n : Nat) (a : AMap σ) (r : Rec σ)
    (ho : a.liveAt now o = some r) (hne : n ≠ o) (hn : a.liveAt now n = none) :
    let post := (specStep p now (.changeId o n) a).1
    (specStep p now (.changeId o n) a).2 = .ok
    ∧ post.liveAt now n = some r ∧ post.liveAt now o = none ∧ ∀ j, j ≠ o → j ≠ n → post j = a j := by
  have hl := (liveOpt_some ho).2
  have ho' : ¬ o = n := fun h => hne h.symm
  simp only [specStep, ho, hne, if_false, hn]
  refine ⟨trivial, ?_, ?_, ?_⟩
  · simp [AMap.liveAt, AMap.set, live, hl]
  · simp [AMap.liveAt, AMap.set, ho']
  · intro j h1 h2
    simp [AMap.set, h1, h2]

/-- `delete_expired` has no observable effect. -/
theorem spec_deleteExpired (p : Policy) (now : Nat) (a : AMap σ) :
    (specStep p now .deleteExpired a).1 = a := rfl

theorem spec_frame (p : Policy) (now : Nat) (op : SOp σ) (a : AMap σ) (j : Nat)
    (h : op.mentions j = false) : (specStep p now op a).1 j = a j := by
  rcases spec_effect p now op a with e | ⟨-, e⟩
  · rw [e]
  · exact e j h

/-- **"load returns exactly what the last successful create/update wrote"**: after a successful
    write of `(st, dl)` under id `i`, and any further calls that do not mention `i`, a `load i`
    before the deadline returns exactly `(st, dl)`. -/
theorem spec_load_last_write (p : Policy) (i : Nat) (st : σ) (dl : Nat) (h : List (Nat × SOp σ)) :
    ∀ (now : Nat) (a : AMap σ), a i = some ⟨st, dl⟩ → (∀ x ∈ h, x.2.mentions i = false) →
      ∀ d, now + (h.map (·.1)).sum + d < dl →
      (runSpec p now a (h ++ [(d, .load i)])).getLast? = some (.loaded (some (st, dl))) := by
  induction h with
  | nil =>
    intro now a ha _ d hd
    simp only [List.map_nil, List.sum_nil, Nat.add_zero] at hd
    simp [runSpec, specStep, AMap.liveAt, ha, live, hd]
  | cons x h ih =>
    obtain ⟨d0, op⟩ := x
    intro now a ha hm d hd
    have h1 := hm (d0, op) (List.mem_cons_self ..)
    have ha' : (specStep p (now + d0) op a).1 i = some ⟨st, dl⟩ := by
      rw [spec_frame p _ op a i h1]
      exact ha
    have hd' : now + d0 + (h.map (·.1)).sum + d < dl := by
      simp only [List.map_cons, List.sum_cons] at hd
      omega
    have := ih (now + d0) _ ha' (fun x hx => hm x (List.mem_cons_of_mem _ hx)) d hd'
    simp only [List.cons_append, runSpec]
    rw [List.getLast?_cons_of_ne_nil]
    · exact this
    · cases h <;> simp [runSpec]

/-- **C13 (4), memory**: a `change_id` that answers `Ok` moves the live record of `o` (state and
    deadline) to `n` in one step — at no instant are both or neither visible — and leaves every
    other id's live record alone; a `change_id` that fails changes no live record. -/
theorem mem_changeId_atomic (now o n : Nat) (t : Tbl σ) :
    let post := (memStep now (.changeId o n) t).1
    ((memStep now (.changeId o n) t).2 = .ok →
        ∃ r, tblLive t now o = some r ∧ tblLive post now n = some r
          ∧ (n ≠ o → tblLive post now o = none) ∧ ∀ j, j ≠ o → j ≠ n → tblLive post now j = tblLive t now j)
    ∧ ((memStep now (.changeId o n) t).2 ≠ .ok → ∀ j, tblLive post now j = tblLive t now j) := by
  simp only [memStep, memFresh_eq, memDelete_eq]
  cases ho : tblLive t now o with
  | none => exact ⟨nofun, fun _ _ => rfl⟩
  | some r =>
    cases hn : tblLive t now n with
    | some _ => exact ⟨nofun, fun _ _ => rfl⟩
    | none =>
      have hno : n ≠ o := fun e => by
        rw [e, ho] at hn
        cases hn
      obtain ⟨e1, e2, e3⟩ := tblLive_rename ho hno
      exact ⟨fun _ => ⟨r, rfl, e1, fun _ => e2, fun j h1 h2 => congrArg _ (e3 j h1 h2)⟩,
        fun h => absurd rfl h⟩

/-- **C13 (4), SQLite**: same for the single `UPDATE sessions SET id = ? …` statement, at second
    resolution — for every table, including those on which finding 2 strikes (there the call
    fails, and then changes nothing). -/
theorem sqlite_changeId_atomic (now o n : Nat) (t : Tbl σ) :
    let post := (sqlStep now (.changeId o n) t).1
    ((sqlStep now (.changeId o n) t).2 = .ok →
        ∃ r, tblLive t (now / 1000) o = some r ∧ tblLive post (now / 1000) n = some r
          ∧ (n ≠ o → tblLive post (now / 1000) o = none)
          ∧ ∀ j, j ≠ o → j ≠ n → get post j = get t j)
    ∧ ((sqlStep now (.changeId o n) t).2 ≠ .ok → post = t) := by
  simp only [sqlStep, sqlSel_eq]
  cases ho : tblLive t (now / 1000) o with
  | none => exact ⟨nofun, fun _ => rfl⟩
  | some r =>
    by_cases hno : n = o
    · subst hno
      simp only [if_true]
      exact ⟨fun _ => ⟨r, rfl, ho, fun h => absurd rfl h, fun _ _ _ => trivial⟩,
        fun h => absurd rfl h⟩
    · simp only [hno, if_false]
      cases get t n with
      | some _ => exact ⟨nofun, fun _ => rfl⟩
      | none =>
        obtain ⟨e1, e2, e3⟩ := tblLive_rename ho hno
        exact ⟨fun _ => ⟨r, rfl, e1, fun _ => e2, e3⟩, fun h => absurd rfl h⟩

-- a memory history with expiry, a collision, a rename and a batched purge
example : runObs 1 memStep 0 ([] : Tbl Nat)
    [(0, .create 1 7 5), (0, .create 1 8 5), (3, .load 1), (2, .load 1), (0, .create 2 9 10),
     (0, .changeId 2 1), (1, .load 1), (0, .changeId 3 1), (0, .deleteExpired (some 1) [4, 1])]
    = [.ok, .dup, .loaded (some (7, 5)), .loaded none, .ok, .ok, .loaded (some (9, 15)), .unknown, .deleted] := by
  decide +kernel
-- a SQLite history satisfying both hypotheses of `sqlite_refines_of_clean`, crossing the
-- `deadline = unixepoch()` boundary (create at 0.5 s with TTL 1.6 s: deadline second 2)
example : anyStep sqlStep sqlCreateOnLive 0 ([] : Tbl Nat)
      [(500, .create 1 7 1600), (1400, .load 1), (100, .load 1), (0, .create 1 8 1000), (0, .load 1)] = false
    ∧ anyStep sqlStep sqlSquattedRename 0 ([] : Tbl Nat)
      [(500, .create 1 7 1600), (1400, .load 1), (100, .load 1), (0, .create 1 8 1000), (0, .load 1)] = false
    ∧ runObs 1000 sqlStep 0 ([] : Tbl Nat)
      [(500, .create 1 7 1600), (1400, .load 1), (100, .load 1), (0, .create 1 8 1000), (0, .load 1)]
      = [.ok, .loaded (some (7, 2)), .loaded none, .ok, .loaded (some (8, 3))] := by
  decide +kernel
-- a schedule that really interleaves two tasks (and has an idle tick)
example : (linearise 0 [[Op.create 1 (7 : Nat) 5, .load 1], [.delete 1, .load 1]] [⟨0, 0⟩, ⟨1, 1⟩, ⟨0, 5⟩, ⟨2, 1⟩, ⟨0, 0⟩]).map (·.1)
    = [0, 1, 1, 0] := by decide +kernel
example : (runConc memStep 0 ([] : Tbl Nat) [[Op.create 1 7 5, .load 1], [.delete 1, .load 1]]
    [⟨0, 0⟩, ⟨1, 1⟩, ⟨0, 5⟩, ⟨2, 1⟩, ⟨0, 0⟩]).map (·.2) = [.ok, .ok, .loaded none, .loaded none] := by decide +kernel
example : WF ([(1, ⟨7, 5⟩), (2, ⟨8, 0⟩)] : Tbl Nat) := by unfold WF keys; decide

end Pxv.Store
