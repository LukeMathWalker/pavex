import Pxv.Lemmas.Partition
/-!
C03 — constructor lifecycles are honoured at run time.

`closureOf` mirrors how pavexc builds the call graph of one generated closure (`build_call_graph` with
`NodeDeduplicator`), `plan` the cross-stage bookkeeping of `RequestHandlerPipeline::new` (steps 1c–3),
`Plan.invariantsOk` its `enforce_invariants` (a blueprint on which that check fails is not accepted: pavexc
panics), `Plan.origin` the type-keyed hand-over of values between the generated stage functions.
A *run* is what executes for one request: any sub-list of every closure's nodes (early returns skip whole
components, a failing constructor cuts a closure short, error arms run a different part of it).
-/
namespace Pxv.Life
open Pxv.Scope

/-- **node de-duplication** (↔ `NodeDeduplicator::add_node_at_most_once`): in the call graph of one
    closure every constructor of the de-duplicated lifecycle — request-scoped in a request graph,
    singleton in the application-state graph — has at most one node, whatever the inputs, the
    prebuilt set and the depth of the dependency chains. -/
theorem dedup_unique (lk : Nat → Option CDef) (pre : List Nat) (once : Life) (hne : once ≠ .transient)
    (fuel : Nat) (ins : List (Nat × Mode)) :
    ((closureOf lk pre once fuel ins).1.idsOf once).Nodup :=
  closure_dedup lk pre once hne fuel ins

/-- every node of a call graph is a transient constructor, or a constructor of the de-duplicated
    lifecycle that is not prebuilt: the other long-lived lifecycle and the prebuilt components are
    input parameters (↔ `component_id2node`). -/
theorem nodes_lifecycle (lk : Nat → Option CDef) (pre : List Nat) (once : Life)
    (fuel : Nat) (ins : List (Nat × Mode)) :
    ∀ n ∈ (closureOf lk pre once fuel ins).1.nodes,
      n.ctor.life = .transient ∨ (n.ctor.life = once ∧ pre.contains n.ctor.uid = false) := by
  refine closureOf_preserves
    (fun cl => ∀ n ∈ cl.nodes,
      n.ctor.life = .transient ∨ (n.ctor.life = once ∧ pre.contains n.ctor.uid = false))
    lk pre once (fun _ _ _ h => h) (fun cl c t srcs h _ ho n hn => ?_) (fun _ hn => nomatch hn)
    fuel ins
  rcases List.mem_append.mp hn with hn | hn
  · exact h n hn
  · -- a node is only ever added for such a constructor
    cases List.mem_singleton.mp hn
    exact ho.imp id fun ho => ⟨ho.1, ho.2.1⟩

/-- **C03 (request-scoped, once)**: in a pipeline that pavexc's `enforce_invariants` lets through,
    every request-scoped constructor runs at most once per request — for every pipeline shape and
    whatever part of it a request executes (early returns, failing constructors, error arms). -/
theorem rs_once (p : Plan) (h : p.invariantsOk = true) (r : Run p) (x : Nat) : r.constructions x ≤ 1 := by
  -- a run constructs `x` at most as often as the closures have nodes for it; the guard allows one
  have hcount : p.count x ≤ 1 := by
    rw [count_eq_count]
    exact List.nodup_iff_count.mp ((invariantsOk_iff p).mp h) x
  exact Nat.le_trans (constructions_le_count r x) hcount

/-- **C03 — `enforce_invariants` never fires in a uniform pipeline** (↔ the cross-stage bookkeeping of
    `RequestHandlerPipeline::new`, steps 2–3, is right): when the handler and the middlewares of a route resolve every
    type alike, every request-scoped constructor gets a node in at most one closure of the pipeline — the closure of its
    only user, or, when several components use it, the closure of the wrapping middleware of the earliest stage that
    needs it, from where it reaches the others through the `Next` states (`plan_home`). (`World`: constructor ids identify
    constructors, dependency chains are shorter than the recursion depth; `StagesOk`: the components of the pipeline are
    pairwise different and the synthetic wrapping middleware comes first — `stagesOk_group`.) -/
theorem pipeline_partition {env : Env} {lk : Nat → Option CDef} {rank : Nat → Nat} {tyOf : Nat → Option Nat}
    (w : World env lk rank tyOf) (chain : List Comp) (h : Comp)
    (hu : UniformStages env lk (group chain [] [] h)) (hok : StagesOk (group chain [] [] h)) :
    (plan env tyOf chain h).invariantsOk = true := by
  rw [invariantsOk_iff]
  refine List.pairwise_flatMap.mpr ⟨fun cp hcp => ?_, ?_⟩
  · obtain ⟨_, _, hmk⟩ := plan_mem env tyOf chain h cp hcp
    rw [hmk]
    exact closure_dedup _ _ .request (by decide) _ _
  · -- two different components: the homes of their request-scoped nodes differ
    have hnd : ((plan env tyOf chain h).comps.map keyOf).Nodup :=
      plan_keys env tyOf chain h ▸ hok.nodup
    refine (List.pairwise_map.mp hnd).imp_of_mem fun {cp1 cp2} hcp1 hcp2 hne x hx y hy hxy => ?_
    subst hxy
    have hk1 := (plan_mem env tyOf chain h cp1 hcp1).1
    have hk2 := (plan_mem env tyOf chain h cp2 hcp2).1
    exact hne (home_unique hok hk1 hk2 (plan_home w chain h hu hok cp1 hcp1 x hx)
      (plan_home w chain h hu hok cp2 hcp2 x hy))

/-- **C03 (request-scoped, once) without the guard**: in the pipeline pavexc builds for a route whose components
    resolve types alike — the synthetic wrapping middleware `c0`, the chain `ms`, the handler `h`, all different —
    every request-scoped constructor runs at most once per request, whatever part of the pipeline the request executes. -/
theorem rs_once_uniform {env : Env} {lk : Nat → Option CDef} {rank : Nat → Nat} {tyOf : Nat → Option Nat}
    (w : World env lk rank tyOf) (c0 : Comp) (ms : List Comp) (h : Comp) (hw : c0.isWrapping = true)
    (hnd : (c0 :: ms ++ [h]).Nodup) (hun : Uniform env lk (c0 :: ms) h)
    (r : Run (plan env tyOf (c0 :: ms) h)) (x : Nat) : r.constructions x ≤ 1 :=
  rs_once _
    (pipeline_partition w (c0 :: ms) h (uniformStages_of_uniform hun)
      (stagesOk_group c0 ms h hw hnd))
    r x

/-- **C03 (request-scoped, shared)**: in an accepted pipeline all values built by the request-scoped
    constructor `x` that reach any input of any component (handler, middlewares, constructors) are one
    and the same node — the consumers see that instance (or clones of it). -/
theorem rs_shared (env : Env) (tyOf : Nat → Option Nat) (chain : List Comp) (h : Comp)
    (hok : (plan env tyOf chain h).invariantsOk = true) (x : Nat) (o1 o2 : Origin)
    (h1 : (plan env tyOf chain h).isNodeOf o1 x) (h2 : (plan env tyOf chain h).isNodeOf o2 x) : o1 = o2 :=
  node_unique _ hok h1 h2

/-- **C03 (request-scoped, shared) without the guard**: in a uniform pipeline all values of a request-scoped
    constructor that reach any input of any component are one and the same node. -/
theorem rs_shared_uniform {env : Env} {lk : Nat → Option CDef} {rank : Nat → Nat} {tyOf : Nat → Option Nat}
    (w : World env lk rank tyOf) (c0 : Comp) (ms : List Comp) (h : Comp) (hw : c0.isWrapping = true)
    (hnd : (c0 :: ms ++ [h]).Nodup) (hun : Uniform env lk (c0 :: ms) h) (x : Nat) (o1 o2 : Origin)
    (h1 : (plan env tyOf (c0 :: ms) h).isNodeOf o1 x) (h2 : (plan env tyOf (c0 :: ms) h).isNodeOf o2 x) : o1 = o2 :=
  rs_shared env tyOf (c0 :: ms) h
    (pipeline_partition w (c0 :: ms) h (uniformStages_of_uniform hun)
      (stagesOk_group c0 ms h hw hnd))
    x o1 o2 h1 h2

/-- **C03 (singletons, never while a request is served)**: no closure of any pipeline contains a
    node for a singleton constructor — singletons are inputs, read from the application state. -/
theorem singleton_never_in_request (env : Env) (tyOf : Nat → Option Nat) (chain : List Comp) (h : Comp) :
    ∀ cp ∈ (plan env tyOf chain h).comps, ∀ n ∈ cp.cl.nodes, n.ctor.life ≠ .singleton := by
  intro cp hcp n hn
  obtain ⟨_, _, hmk⟩ := plan_mem env tyOf chain h cp hcp
  rw [hmk] at hn
  -- a node of a request graph is transient or request-scoped
  rcases nodes_lifecycle _ _ _ _ _ n hn with h1 | ⟨h1, _⟩ <;> rw [h1] <;> decide

/-- a request-scoped constructor that was hoisted into stage `b` (`built_at`) is an input, never a
    node, of every closure of a later stage (↔ `prebuilt_ids`). -/
theorem hoisted_not_rebuilt (env : Env) (tyOf : Nat → Option Nat) (chain : List Comp) (h : Comp) :
    ∀ cp ∈ (plan env tyOf chain h).comps, ∀ n ∈ cp.cl.nodes, n.ctor.life = .request →
      ∀ xb ∈ (plan env tyOf chain h).builtAt, xb.1 = n.ctor.uid → ¬ xb.2 < cp.stage := by
  intro cp hcp n hn hl xb hxb hx hlt
  obtain ⟨_, _, hmk⟩ := plan_mem env tyOf chain h cp hcp
  rw [hmk] at hn
  rcases nodes_lifecycle _ _ _ _ _ n hn with h1 | ⟨_, h2⟩
  · rw [hl] at h1; cases h1
  · rw [prebuilt_iff.mpr ⟨xb.2, hx ▸ hxb, hlt⟩] at h2
    cases h2

/-- **C03 (singletons, once)**: in the graph `ApplicationState::new` is generated from, every singleton
    constructor has at most one node, and no request-scoped constructor has any. -/
theorem singleton_once (lk : Nat → Option CDef) (fuel : Nat) (needed : List Nat) :
    ((appClosure lk fuel needed).1.idsOf .singleton).Nodup ∧
    ∀ n ∈ (appClosure lk fuel needed).1.nodes, n.ctor.life ≠ .request := by
  unfold appClosure
  refine ⟨dedup_unique lk [] .singleton (by decide) fuel _, ?_⟩
  intro n hn
  -- a node of the application-state graph is transient or a singleton
  rcases nodes_lifecycle _ _ _ _ _ n hn with h1 | ⟨h1, _⟩ <;> rw [h1] <;> decide

/-- **transients are never shared**: in the call graph of a closure every node of a transient
    constructor feeds at most one input — of the component or of another node. -/
theorem transient_never_shared (lk : Nat → Option CDef) (hu : UidInj lk) (pre : List Nat) (once : Life)
    (fuel : Nat) (ins : List (Nat × Mode)) (i : Nat)
    (ht : (closureOf lk pre once fuel ins).1.transientAt i) :
    refs i ((closureOf lk pre once fuel ins).1.inner ++ (closureOf lk pre once fuel ins).2) ≤ 1 :=
  -- the invariant `Refs` holds of the empty closure and is kept by the traversal
  have h0 : Refs {} [] := ⟨fun _ _ => rfl, fun _ ⟨_, h, _⟩ => nomatch h⟩
  (foldRes_refs (resolve_refs hu pre once fuel) ins {} [] (fun _ h => nomatch h) h0).once i ht

/-- **one construction per injection site**: every time the traversal meets an input whose
    constructor is transient it adds a brand-new node for it. -/
theorem transient_per_site (lk : Nat → Option CDef) (hu : UidInj lk) (pre : List Nat) (once : Life) (f : Nat)
    (cl : Closure) (hg : Good lk cl) (ty : Nat) (m : Mode) (c : CDef) (hl : lk ty = some c)
    (ht : c.life = .transient) :
    ∃ k n, (resolve lk pre once (f + 1) cl (ty, m)).2 = .built k ∧ cl.nodes.length ≤ k ∧
      (resolve lk pre once (f + 1) cl (ty, m)).1.nodes[k]? = some n ∧ n.ctor = c := by
  simp only [resolve, hl, ht, beq_self_eq_true, if_true]
  -- the node of `c` is pushed after its inputs were resolved: it is the last one
  exact ⟨_, _, rfl, (foldRes_prefix lk pre once f cl c.ins).length_le,
    List.getElem?_concat_length, rfl⟩

/-- T0: request-scoped `c0`; T1: request-scoped `c1(&T0)`; T2: transient `c2(&T0)`; T3: singleton `c3` -/
def exTab : List CDef := [⟨0, 0, .request, false, []⟩, ⟨1, 1, .request, false, [(0, .ref)]⟩,
  ⟨2, 2, .transient, false, [(0, .ref)]⟩, ⟨3, 3, .singleton, false, []⟩]
def exLk : Nat → Option CDef := fun t => exTab.find? (fun d => d.ty == t)

-- Non-vacuity (one call graph): a component taking &T1, &T0, T2, T2, &T3. `c0` is needed three times and has
-- one node; each of the two T2 inputs gets its own `c2` node; the singleton is a parameter.
example :
    let r := closureOf exLk [] .request 5 [(1, .ref), (0, .ref), (2, .val), (2, .val), (3, .ref)]
    r.1.nodes.map (·.ctor.uid) = [0, 1, 2, 2] ∧ r.2 = [.built 1, .built 0, .built 2, .built 3, .param 3] ∧
    r.1.rs = [0, 1] ∧ r.1.paramTypes = [(3, .ref)] ∧
    r.1.nodes.map (·.ins) = [[], [.built 0], [.built 0], [.built 0]] ∧
    refs 2 (r.1.inner ++ r.2) = 1 ∧ refs 3 (r.1.inner ++ r.2) = 1 ∧ refs 0 (r.1.inner ++ r.2) = 4 := by decide +kernel
example : UidInj exLk := uidInj_of_table exTab (by decide)
-- with `c0` prebuilt by an earlier stage it becomes a parameter of the closure
example : (closureOf exLk [0] .request 5 [(1, .ref), (0, .ref)]).1.nodes.map (·.ctor.uid) = [1] ∧
    (closureOf exLk [0] .request 5 [(1, .ref), (0, .ref)]).2 = [.built 0, .param 0] := by decide +kernel
-- the application-state graph: the singleton is the de-duplicated node there
example : (appClosure exLk 5 [3, 3]).1.nodes.map (·.ctor.uid) = [3] ∧ (appClosure exLk 5 [3, 3]).2 = [.built 0, .built 0] := by decide +kernel

/-- a uniform pipeline: wrap `m0(&T0)` in the root (scope 1), pre `m1(&T1)`, handler `h0(&T0, T2, &T3)`; every scope
    resolves like `exLk` -/
def exEnv : Env := { get := fun _ => exLk, fuel := 5 }
def exChain : List Comp := [⟨.noop, 0, 5, []⟩, ⟨.wrap, 0, 1, [(0, .ref)]⟩, ⟨.pre, 1, 4, [(1, .ref)]⟩]
def exH : Comp := ⟨.handler, 0, 5, [(0, .ref), (2, .val), (3, .ref)]⟩
def exPlan : Plan := plan exEnv (fun u => (exTab.find? (fun d => d.uid == u)).map (·.ty)) exChain exH

-- Non-vacuity (pipeline): `c0` has three users (m0, m1 through c1, h0) and is hoisted into stage 1 (the wrap `m0`),
-- the later stage receives it through `Next1`; `enforce_invariants` passes; everybody sees node (1, 0).
example : exPlan.builtAt = [(0, 1)] ∧ exPlan.invariantsOk = true ∧ exPlan.comps.length = 4 ∧
    exPlan.comps.map (fun c => c.cl.nodes.map (·.ctor.uid)) = [[], [0], [1], [2]] ∧
    (exPlan.comps[3]?.map (fun c => c.args.map (exPlan.origin 3))) = some [.node 1 0, .node 3 0, .app 3] ∧
    (exPlan.comps[2]?.map (fun c => c.cl.nodes.map (fun n => n.ins.map (exPlan.origin 2)))) = some [[.node 1 0]] ∧
    exPlan.count 0 = 1 := by decide +kernel
example : exPlan.isNodeOf (.node 1 0) 0 := ⟨⟨0, 0, .request, false, []⟩, by decide +kernel, rfl, rfl⟩

-- Non-vacuity of `pipeline_partition` / `rs_once_uniform`: the example table makes a `World`, the example pipeline is
-- uniform and well-shaped, so its guard passes by the theorem (and by evaluation, above)
example : exPlan.invariantsOk = true :=
  pipeline_partition (world_of_table exTab 5 (by decide) (by decide) (by decide) (by decide))
    exChain exH (uniformStages_of_uniform (fun _ _ => rfl))
    (stagesOk_group ⟨.noop, 0, 5, []⟩ [⟨.wrap, 0, 1, [(0, .ref)]⟩, ⟨.pre, 1, 4, [(1, .ref)]⟩] exH rfl
      (by decide))

end Pxv.Life
