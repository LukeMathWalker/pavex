import Pxv.Lemmas.SessionRefine
import Pxv.Lemmas.SessionCarry
/-!
C12 — session cookies are never emitted unprotected and never leak the id.

About `finalizeSession` (middleware.rs), the cookie built by `finalize` (session_.rs), what
`ResponseCookies` holds afterwards (`respond`), the processor's outgoing treatment (`outgoingAlg`)
and the `Debug` view. Theorems 1–3, 7, 8 hold for *every* session state and
store, hence after every operation history and under every configuration — where the processor is a
parameter of each *request* (`Req.crypto`, `ReqOut.cfg`): the crypto configuration may change between
the requests of a history (key / algorithm rotation with fallbacks), the cookie a request presents
may have been written under another configuration and read through a fallback (`accept`), or the
incoming session may be assembled by hand (`Src.parts`, `IncomingSession::from_parts`).
-/
set_option linter.unusedSectionVars false
namespace Pxv.Session

variable {κ ν : Type} [DecidableEq κ]

/-- **C12 (1)**: a session cookie (value or removal) is attached only if the processor says it will
    sign or encrypt a cookie of that name. -/
theorem cookie_protected (cfg : Config) (s s' : Sess κ ν) (w w' : World κ ν) (f : Fin κ ν)
    (h : finalizeSession cfg s w = (f, s', w')) (hc : (∃ id c, f = .set id c) ∨ f = .removal) :
    willSign cfg = true ∨ willEncrypt cfg = true := by
  obtain ⟨_, _, h2⟩ := finalizeSession_cookie cfg s s' w w' f h hc
  cases he : willEncrypt cfg with
  | true => exact .inr rfl
  | false => exact .inl (h2 he)

/-- **C12 (2)**: a cookie that carries client-side state is attached only if the processor says it
    will encrypt it. -/
theorem client_state_encrypted (cfg : Config) (s s' : Sess κ ν) (w w' : World κ ν) (id : Nat) (c : Map κ ν)
    (h : finalizeSession cfg s w = (.set id c, s', w')) (hne : c ≠ []) : willEncrypt cfg = true := by
  obtain ⟨h0, h1, _⟩ := finalizeSession_cookie cfg s s' w w' _ h (.inl ⟨id, c, rfl⟩)
  obtain ⟨e1, e2⟩ := finalize_set_client cfg s s' w w' id c h0
  refine h1 ?_
  rw [clientIsEmpty, e2, ← e1]
  cases c with
  | nil => exact absurd rfl hne
  | cons => rfl

/-- **C12 (3)**: when the middleware fails the request, `ResponseCookies` is left as it was. -/
theorem error_no_cookie (cfg : Config) (rc : List (OutCookie κ ν)) (e : FinErr) :
    respond cfg rc (.err e : Fin κ ν) = rc := rfl

/-- ... and nothing else than one session cookie is ever added. -/
theorem respond_adds_at_most_one (cfg : Config) (rc : List (OutCookie κ ν)) (f : Fin κ ν) :
    (respond cfg rc f).length ≤ rc.length + 1 := by
  cases f <;> simp [respond]

/-- **C12 (4)**: the value cookie carries the configured name, domain, path, SameSite, Secure,
    HttpOnly, and a max-age (the configured TTL) exactly when the cookie kind is persistent. -/
theorem attrs_eq_config (cfg : Config) :
    (setAttrs cfg).name = cfg.cookie.name ∧ (setAttrs cfg).domain = cfg.cookie.domain ∧
    (setAttrs cfg).path = cfg.cookie.path ∧ (setAttrs cfg).sameSite = cfg.cookie.sameSite ∧
    (setAttrs cfg).secure = cfg.cookie.secure ∧ (setAttrs cfg).httpOnly = cfg.cookie.httpOnly ∧
    ((setAttrs cfg).maxAge = some cfg.ttl ↔ cfg.cookie.kind = .persistent) ∧
    ((setAttrs cfg).maxAge = none ↔ cfg.cookie.kind = .session) := by
  -- `maxAge` is the one attribute that is computed: from the cookie kind
  refine ⟨rfl, rfl, rfl, rfl, rfl, rfl, ?_, ?_⟩ <;>
    cases h : cfg.cookie.kind <;> simp [setAttrs, h]

/-- On the wire biscotti never drops an attribute; it adds `Secure` exactly when SameSite=None
    forces it. -/
theorem wire_attrs (cfg : Config) :
    (wireAttrs cfg).secure = (cfg.cookie.secure || decide (cfg.cookie.sameSite = some .none)) ∧
    (cfg.cookie.secure = true → (wireAttrs cfg).secure = true) ∧
    { wireAttrs cfg with secure := cfg.cookie.secure } = setAttrs cfg := by
  refine ⟨rfl, ?_, rfl⟩
  intro h
  simp [wireAttrs, h]

/-- The removal cookie addresses the same cookie: configured name, domain and path. -/
theorem removal_attrs (cfg : Config) :
    (removalAttrs cfg).name = cfg.cookie.name ∧ (removalAttrs cfg).domain = cfg.cookie.domain ∧
    (removalAttrs cfg).path = cfg.cookie.path := ⟨rfl, rfl, rfl⟩

/-- **C12 (5)**: the `Debug` output does not depend on the session id: sessions that differ only in
    their id print the same. -/
theorem debug_no_id (s : Sess κ ν) (id' : CurId) : debugView { s with id := id' } = debugView s := rfl

/-- **C12 (6), full strength on the wire** (kept visible): whenever the middleware lets a cookie
    through, the processor really signs or encrypts it. False — see `wire_protected_statement_false`. -/
def wire_protected_statement : Prop :=
  ∀ cfg : Config, (willSign cfg = true ∨ willEncrypt cfg = true) → outgoingAlg cfg ≠ .none

/-- biscotti percent-encodes the cookie name *before* it looks up its crypto rule, while
    `will_sign`/`will_encrypt` look the raw name up: a name such as `my id` passes the middleware's
    check and goes out in plain text (finding C12-N1, in the third-party crate `biscotti`). -/
theorem wire_protected_statement_false : ¬ wire_protected_statement := by
  intro h
  have := h { ttl := 1, creation := .neverSkip, missing := .reject, extend := .onChanges, threshold := none,
              cookie := { name := "my id", domain := none, path := none, secure := true, httpOnly := true,
                          sameSite := none, kind := .session },
              crypto := { alg := .encrypt, ruleName := "my id", percentEncode := true } }
  revert this
  decide +kernel

/-- **C12 (6), partial**: if the cookie name is not changed by percent-encoding (or percent-encoding
    is off), what the middleware was promised is what happens on the wire. -/
theorem wire_protected_partial (cfg : Config)
    (hname : cfg.crypto.percentEncode = false ∨ pctEncode cfg.cookie.name = cfg.cookie.name) :
    (willEncrypt cfg = true → outgoingAlg cfg = .encrypt) ∧ (willSign cfg = true → outgoingAlg cfg = .sign) := by
  have hw : wireName cfg = cfg.cookie.name := by
    unfold wireName
    cases hname with
    | inl h => simp [h]
    | inr h => simp [h]
  -- so the outgoing lookup finds the rule `will_encrypt` / `will_sign` found under the raw name
  have out (a : Alg) (ha : a ≠ .none)
      (h : (decide (cfg.crypto.alg = a) && decide (cfg.crypto.ruleName = cfg.cookie.name)) = true) :
      outgoingAlg cfg = a := by
    simp only [Bool.and_eq_true, decide_eq_true_eq] at h
    obtain ⟨halg, hrule⟩ := h
    unfold outgoingAlg
    rw [hw, if_pos ⟨halg ▸ ha, hrule⟩, halg]
  exact ⟨out .encrypt nofun, out .sign nofun⟩

/-- Every response of a history was produced under the processor of *its* request. -/
theorem history_cfgs (cfg : Config) (reqs : List (Req κ ν)) (c : Client κ ν) (w : World κ ν) :
    (runHistory cfg reqs c w).map (·.cfg) = reqs.map (fun rq => reqCfg cfg rq.crypto) := by
  induction reqs generalizing c w with
  | nil => rfl
  | cons rq rest ih =>
    simp only [runHistory, List.map_cons]
    congr 1
    exact ih _ _

/-- **C12 (7), every history, the processor may change from request to request**: in every
    history, every response that carries a session cookie satisfies (1) and (2) with respect to the
    processor in force for that request (`o.cfg`) — whatever processor wrote the cookie the request
    came in with, whether it was read through a fallback, and whether the incoming session was
    assembled by hand. -/
theorem every_cookie_protected (cfg : Config) (reqs : List (Req κ ν)) (c : Client κ ν) (w : World κ ν) :
    ∀ o ∈ runHistory cfg reqs c w,
      (((∃ id cl, o.fin = .set id cl) ∨ o.fin = .removal) → (willSign o.cfg = true ∨ willEncrypt o.cfg = true)) ∧
      (∀ id cl, o.fin = .set id cl → cl ≠ [] → willEncrypt o.cfg = true) := by
  induction reqs generalizing c w with
  | nil => exact fun _ h => nomatch h
  | cons rq rest ih =>
    simp only [runHistory, List.mem_cons, forall_eq_or_imp]
    refine ⟨?_, ih _ _⟩
    generalize reqCfg cfg rq.crypto = cfg'
    generalize presented cfg' c rq.src = pres
    generalize ({ (if rq.expire = true then expire pres w else w) with log := [] } : World κ ν)
      = w2
    rcases runRequest_fin cfg' rq.rem pres rq.ops w2 with h | ⟨s, w1, s', w', h⟩
    · -- an operation panicked: no cookie
      rw [h]
      refine ⟨fun e => ?_, nofun⟩
      rcases e with ⟨_, _, e⟩ | e <;> cases e
    · -- what the response carries came out of `finalizeSession`: (1) and (2)
      refine ⟨cookie_protected _ _ _ _ _ _ h, fun id cl e => ?_⟩
      exact client_state_encrypted _ _ _ _ _ id cl (e ▸ h)

/-- **C12 (8), no downgrade**: a session whose client-side state is not empty — no matter whether
    this request modified it or merely carried it over from the incoming cookie — never gets a
    value cookie from a processor that does not encrypt. -/
theorem client_state_never_downgraded (cfg : Config) (s s' : Sess κ ν) (w w' : World κ ν) (f : Fin κ ν)
    (h : finalizeSession cfg s w = (f, s', w')) (hne : s.client.state ≠ []) (hw : willEncrypt cfg = false) :
    ∀ id c, f ≠ .set id c := by
  intro id c e
  subst e
  -- the cookie carries the client state the request started `finalize` with, so (2) applies
  obtain ⟨e1, _⟩ :=
    finalize_set_client cfg s s' w w' id c (finalizeSession_set cfg s s' w w' id c h)
  exact nomatch hw.symm.trans (client_state_encrypted cfg s s' w w' id c h (e1 ▸ hne))

/-- **C12 (9), on the wire, partial**: in every history, every cookie handed to the client is
    really signed or encrypted, and really encrypted if it carries client-side state — for the
    requests whose processor does not alter the cookie name by percent-encoding (finding C12-N1). -/
theorem every_token_protected_partial (cfg : Config) (reqs : List (Req κ ν)) (c : Client κ ν) (w : World κ ν) :
    ∀ o ∈ runHistory cfg reqs c w, ∀ t, issuedBy o.cfg o.fin = some t →
      (o.cfg.crypto.percentEncode = false ∨ pctEncode o.cfg.cookie.name = o.cfg.cookie.name) →
      t.prot ≠ .none ∧ (t.client ≠ [] → t.prot = .encrypt) := by
  intro o ho t ht hname
  obtain ⟨p1, p2⟩ := every_cookie_protected cfg reqs c w o ho
  obtain ⟨q1, q2⟩ := wire_protected_partial o.cfg hname
  obtain ⟨id, cl, hf, rfl⟩ := issuedBy_eq_some _ _ _ ht
  refine ⟨?_, fun hcl => q1 (p2 id cl hf hcl)⟩
  show outgoingAlg o.cfg ≠ .none
  rcases p1 (.inl ⟨id, cl, hf⟩) with hs | he
  · rw [q2 hs]; nofun
  · rw [q1 he]; nofun

/-- **Rotation keeps the cookies that are out there readable** (so that the situations (7)–(9)
    quantify over do arise): a protected cookie written under `cfgA` is read by a processor
    `cfgB` for the same cookie name exactly as `cfgA` itself reads it, provided `cfgB`'s rule still
    lists `cfgA`'s primary (algorithm, key) — as its own primary or as a fallback. -/
theorem rotation_keeps_cookies_readable (cfgA cfgB : Config) (id : Nat) (cl : Map κ ν)
    (hck : cfgB.cookie = cfgA.cookie) (hrn : cfgB.crypto.ruleName = cfgA.crypto.ruleName)
    (hpe : cfgB.crypto.percentEncode = cfgA.crypto.percentEncode) (hB : cfgB.crypto.alg ≠ .none)
    (hA : outgoingAlg cfgA ≠ .none)
    (hmem : (cfgA.crypto.alg, cfgA.crypto.key) ∈ (cfgB.crypto.alg, cfgB.crypto.key) :: cfgB.crypto.fallbacks) :
    accept cfgB (issue cfgA id cl) = accept cfgA (issue cfgA id cl) := by
  have hA' : cfgA.crypto.alg ≠ .none ∧ cfgA.crypto.ruleName = wireName cfgA := by
    unfold outgoingAlg at hA
    by_cases h : cfgA.crypto.alg ≠ .none ∧ cfgA.crypto.ruleName = wireName cfgA
    · exact h
    · simp [h] at hA
  have ho : outgoingAlg cfgA = cfgA.crypto.alg := by simp [outgoingAlg, hA'.1, hA'.2.symm]
  -- any processor whose rule for the wire name lists `cfgA`'s primary configuration reads the value
  have v (cfg : Config) (hrn : cfg.crypto.ruleName = cfgA.crypto.ruleName)
      (hn : cfg.crypto.alg ≠ .none)
      (hmem : (cfgA.crypto.alg, cfgA.crypto.key) ∈
        (cfg.crypto.alg, cfg.crypto.key) :: cfg.crypto.fallbacks) :
      valueReadable cfg.crypto (issue cfgA id cl) = true := by
    have hr : ruleFor cfg.crypto (wireName cfgA) =
        some ((cfg.crypto.alg, cfg.crypto.key) :: cfg.crypto.fallbacks) := by
      simp [ruleFor, hn, hrn, hA'.2]
    simp only [valueReadable, issue, hr, ho]
    simp only [Bool.and_eq_true, bne_iff_ne, ne_eq, List.any_eq_true]
    exact ⟨hA'.1, (cfgA.crypto.alg, cfgA.crypto.key), hmem, by simp⟩
  -- both read the value, and the check of the name is the same by `hpe` and `hck`
  simp only [accept, v cfgA rfl hA'.1 List.mem_cons_self, v cfgB hrn hB hmem, readName, hpe, hck]

def exCookie : CookieCfg :=
  { name := "id", domain := none, path := some "/", secure := true, httpOnly := true, sameSite := some .lax, kind := .persistent }
def exCfgWith (alg : Alg) : Config :=
  { ttl := 100, creation := .neverSkip, missing := .reject, extend := .onLoadsAndChanges, threshold := none,
    cookie := exCookie, crypto := { alg, ruleName := "id", percentEncode := true } }
def exCfgEnc := exCfgWith .encrypt
def exCfgSign := exCfgWith .sign
def exCfgNone := exCfgWith .none

-- Non-vacuity: a cookie does get through, with and without client state; and the refusals happen.
example : (finalizeSession exCfgEnc (⟨.newlyGenerated 0, some (.changed [(1, 2)]), .updated [(3, 4)], false⟩ : Sess Nat Nat)
    ⟨[], 1, []⟩).1 = .set 0 [(3, 4)] := by decide
example : (finalizeSession exCfgSign (⟨.newlyGenerated 0, some (.changed [(1, 2)]), .unchanged [], false⟩ : Sess Nat Nat)
    ⟨[], 1, []⟩).1 = .set 0 [] := by decide
example : (finalizeSession exCfgSign (⟨.newlyGenerated 0, some (.changed [(1, 2)]), .updated [(3, 4)], false⟩ : Sess Nat Nat)
    ⟨[], 1, []⟩).1 = .err .encryptionRequired := by decide
example : (finalizeSession exCfgNone (⟨.newlyGenerated 0, some (.changed [(1, 2)]), .unchanged [], false⟩ : Sess Nat Nat)
    ⟨[], 1, []⟩).1 = .err .cryptoRequired := by decide

/-! Rotation and hand-made incoming sessions do arise (non-vacuity of (7)–(9)). -/

def exEncOld : Crypto := { alg := .encrypt, ruleName := "id", percentEncode := true, key := 1 }
/-- signing is the new primary, the old encryption key is kept as a fallback -/
def exSignNew : Crypto := { alg := .sign, ruleName := "id", percentEncode := true, key := 2, fallbacks := [(.encrypt, 1)] }
def exEncNew : Crypto := { alg := .encrypt, ruleName := "id", percentEncode := true, key := 3, fallbacks := [(.encrypt, 1)] }

/-- Request 0 (old processor, encryption) stores client-side state; request 1 runs under the rotated
    processor (signing, old key as fallback), reads the session through the fallback, does not touch
    the client-side state — and is refused: the state would go out signed only. -/
example : (runHistory exCfgEnc
      [⟨.jar, false, 100, [.cInsert 3 4], some exEncOld⟩, ⟨.jar, false, 100, [.cGet 3, .insert 1 2], some exSignNew⟩]
      (Client.init : Client Nat Nat) World.init).map (fun o => (o.incoming, o.res, o.fin)) =
    [(none, [.val none], .set 0 [(3, 4)]), (some 0, [.val (some 4), .val none], .err .encryptionRequired)] := by
  decide +kernel

/-- Key rotation within encryption: read through the fallback, re-issued under the new key. -/
example : (runHistory exCfgEnc
      [⟨.jar, false, 100, [.cInsert 3 4], some exEncOld⟩, ⟨.jar, false, 100, [.cGet 3], some exEncNew⟩,
       ⟨.jar, false, 100, [.cGet 3], some exEncOld⟩]
      (Client.init : Client Nat Nat) World.init).map (fun o => (o.incoming, o.res, o.fin)) =
    [(none, [.val none], .set 0 [(3, 4)]), (some 0, [.val (some 4)], .set 0 [(3, 4)]),
     -- the old processor does not know the new key: the cookie is skipped, a new session starts
     (none, [.val none], .none)] := by
  decide +kernel

/-- `IncomingSession::from_parts`: a hand-made incoming session with client-side state, under a
    signing-only processor, with no client-side operation at all. -/
example : (runHistory exCfgSign
      [⟨.jar, false, 100, [.insert 1 2], none⟩, ⟨.parts 0 [(3, 4)], false, 100, [.get 1], none⟩]
      (Client.init : Client Nat Nat) World.init).map (fun o => (o.incoming, o.res, o.fin)) =
    [(none, [.val none], .set 0 []), (some 0, [.val (some 2)], .err .encryptionRequired)] := by
  decide +kernel

example : accept (reqCfg exCfgEnc (some exSignNew)) (issue (reqCfg exCfgEnc (some exEncOld)) 0 [(3, 4)] : Token Nat Nat)
    = some (0, [(3, 4)]) := by decide +kernel

end Pxv.Session
